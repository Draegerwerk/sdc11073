/-!
# M4 `LockLts` — interleaving semantics of request handlers (readers) and transactions (writers) on `mdib_lock`

A thread is a list of atomic actions; a configuration holds the lock owners (re-entrancy counts), the shared MDIB
state (version counter, the table's current content object, an object heap), the history of published
(version, content) pairs and per-thread program counter and locals. The step relation lets ANY enabled thread move.

What the actions stand for in the code (the programs are generated from dynamic traces of the real handlers and
transactions, `harness/locktrace.py` → `Generated/LockProgs.lean`):
* `acq l` / `rel l` — `with mdib.mdib_lock:` (`l = 0`, `threading.RLock`), `_tr_lock` (`l = 1`)
* `rdV`   — read of `mdib_version` / `sequence_id` / `instance_id` / `mdib_version_group`
* `rdD`   — read of the description: look-up in / walk over the `descriptions` table and serialisation of descriptor
            objects. Descriptor objects ARE updated in place by descriptor transactions
            (`update_from_other_container`), so their content is modelled as a value that is read on the spot.
* `wrD x` — write of the description (table change or in-place update of a descriptor object)
* `rdC`   — read of a state table (`objects`, index `get` / `get_one`): the thread obtains *references* to state objects
* `deref` — read of the content of the state objects obtained before (serialisation `mk_state_node`)
* `incV`  — write of `mdib_version`
* `wrC x` — state table write in which a NEW object replaces the current one (`remove_object` + `add_object`)
* `mutate x` — in-place change of a state object that is in the table (what a shallow `mk_copy` makes possible)
-/
namespace Sdc.LockLts

inductive Act
  | acq (l : Nat)
  | rel (l : Nat)
  | rdV
  | rdD
  | rdC
  | deref
  | incV
  | wrD (x : Nat)
  | wrC (x : Nat)
  | mutate (x : Nat)
deriving DecidableEq, Repr

structure Thr where
  prog : List Act          -- the whole program (never changes)
  todo : List Act          -- what is left of it
  ref : Option Nat := none -- object reference obtained by the last `rdC`
  obsV : List Nat := []    -- versions observed
  obsD : List Nat := []    -- description contents observed
  obsC : List Nat := []    -- state contents observed
deriving Repr

structure Cfg where
  owner : Nat → Option (Nat × Nat)   -- lock ↦ (owning thread, re-entrancy count)
  ver : Nat                          -- mdib_version
  dsc : Nat                          -- content of the description (descriptor objects are changed in place)
  cur : Nat                          -- id of the state object currently in the table
  heap : Nat → Nat                   -- state object id ↦ content
  next : Nat                         -- next fresh object id
  hist : List (Nat × Nat × Nat)      -- (version, description, states) published whenever mdib_lock became free
  thr : Nat → Thr

def upd {β : Type} (f : Nat → β) (i : Nat) (v : β) : Nat → β := fun j => if j = i then v else f j

@[simp] theorem upd_same {β : Type} (f : Nat → β) (i : Nat) (v : β) : upd f i v i = v := if_pos rfl
@[simp] theorem upd_other {β : Type} (f : Nat → β) (i : Nat) (v : β) (j : Nat) (h : j ≠ i) : upd f i v j = f j :=
  if_neg h

/-- thread `i` (with `rest` left to do afterwards) executes action `a`, if it is enabled -/
def stepAct (c : Cfg) (i : Nat) (a : Act) (rest : List Act) : Option Cfg :=
  let t := c.thr i
  let t' : Thr := { t with todo := rest }
  match a with
  | .acq l =>
    match c.owner l with
    | none => some { c with owner := upd c.owner l (some (i, 1)), thr := upd c.thr i t' }
    | some (j, n) =>
      if j = i then some { c with owner := upd c.owner l (some (i, n + 1)), thr := upd c.thr i t' }
      else none                                                   -- blocked
  | .rel l =>
    match c.owner l with
    | none => none
    | some (j, n) =>
      if j = i then
        if n ≤ 1 then
          some { c with owner := upd c.owner l none,
                        hist := if l = 0 then c.hist ++ [(c.ver, c.dsc, c.heap c.cur)] else c.hist,
                        thr := upd c.thr i t' }
        else some { c with owner := upd c.owner l (some (i, n - 1)), thr := upd c.thr i t' }
      else none
  | .rdV => some { c with thr := upd c.thr i { t' with obsV := t.obsV ++ [c.ver] } }
  | .rdD => some { c with thr := upd c.thr i { t' with obsD := t.obsD ++ [c.dsc] } }
  | .rdC => some { c with thr := upd c.thr i { t' with ref := some c.cur } }
  | .deref =>
    match t.ref with
    | some r => some { c with thr := upd c.thr i { t' with obsC := t.obsC ++ [c.heap r] } }
    | none => none
  | .incV => some { c with ver := c.ver + 1, thr := upd c.thr i t' }
  | .wrD x => some { c with dsc := x, thr := upd c.thr i t' }
  | .wrC x => some { c with heap := upd c.heap c.next x, cur := c.next, next := c.next + 1, thr := upd c.thr i t' }
  | .mutate x => some { c with heap := upd c.heap c.cur x, thr := upd c.thr i t' }

/-- thread `i` executes its next action, if it has one and it is enabled -/
def stepFn (c : Cfg) (i : Nat) : Option Cfg :=
  match (c.thr i).todo with
  | [] => none
  | a :: rest => stepAct c i a rest

/-- reachability under ANY schedule: at every step any thread whose next action is enabled may move -/
inductive Reach (c0 : Cfg) : Cfg → Prop
  | refl : Reach c0 c0
  | step {c c' : Cfg} {i : Nat} : Reach c0 c → stepFn c i = some c' → Reach c0 c'

/-- run a given schedule (list of thread ids); a step that is not enabled is skipped. Returns the final
    configuration and, per schedule entry, whether the thread moved. -/
def runSched (c : Cfg) : List Nat → Cfg × List Bool
  | [] => (c, [])
  | i :: is =>
    match stepFn c i with
    | some c' => let r := runSched c' is; (r.1, true :: r.2)
    | none => let r := runSched c is; (r.1, false :: r.2)

theorem reach_runSched (c0 c : Cfg) (h : Reach c0 c) (s : List Nat) : Reach c0 (runSched c s).1 := by
  induction s generalizing c with
  | nil => exact h
  | cons i is ih =>
    simp only [runSched]
    split
    · next c' hs => exact ih c' (Reach.step h hs)
    · exact ih c h

/-! ## lock discipline of a program (decidable) -/

inductive Phase
  | before   -- no shared read yet
  | during   -- inside the (one) critical section in which the shared reads happen
  | after    -- that section has been left
  | mixed    -- the thread wrote after it read: its observations are its own business (transactions)
deriving DecidableEq, Repr

structure Scan where
  d : Nat                  -- nesting depth on lock 0 (mdib_lock)
  ph : Phase
  dirty : Bool := false    -- content was written in the current outermost critical section
  bumped : Bool := false   -- mdib_version was incremented in the current outermost critical section
  ok : Bool := true        -- no section so far was left with content written but the version not incremented
deriving DecidableEq, Repr

def Act.isWrite : Act → Bool
  | .incV | .wrD _ | .wrC _ | .mutate _ => true
  | _ => false

def Act.isMutate : Act → Bool
  | .mutate _ => true
  | _ => false

/-- one action seen by the scanner; `none` = the discipline is violated -/
def stepScan (s : Scan) : Act → Option Scan
  | .acq l =>
    if l = 0 then
      if s.d = 0 then some { s with d := 1, dirty := false, bumped := false }   -- a new outermost section begins
      else some { s with d := s.d + 1 }
    else some s
  | .rel l =>
    if l = 0 then
      if s.d = 0 then none
      else some { s with d := s.d - 1, ph := if s.d = 1 ∧ s.ph = .during then .after else s.ph,
                         ok := if s.d = 1 then s.ok && (!s.dirty || s.bumped) else s.ok }
    else some s
  | .rdV | .rdD | .rdC =>
    if s.d = 0 then none                      -- shared read outside the critical section
    else match s.ph with
      | .before | .during => some { s with ph := .during }
      | .after => none                        -- shared read in a second critical section
      | .mixed => some s
  | .deref => some s
  | .incV =>
    if s.d = 0 then none                      -- shared write outside the critical section
    else some { s with ph := if s.ph = .during then .mixed else s.ph, bumped := true }
  | .wrD _ | .wrC _ | .mutate _ =>
    if s.d = 0 then none                      -- shared write outside the critical section
    else some { s with ph := if s.ph = .during then .mixed else s.ph, dirty := true }

def scan (s : Scan) : List Act → Option Scan
  | [] => some s
  | a :: as => match stepScan s a with
    | some s' => scan s' as
    | none => none

def scan0 : Scan := { d := 0, ph := .before }

/-- every shared access of the program lies inside a critical section on `mdib_lock`, all shared reads lie in one
    and the same section, acquire/release are balanced -/
def WellLocked (p : List Act) : Prop :=
  match scan scan0 p with
  | some s => s.d = 0
  | none => False

instance (p : List Act) : Decidable (WellLocked p) := by
  unfold WellLocked; cases scan scan0 p <;> infer_instance

/-- every critical section of the program that changes content also increments `mdib_version`
    (what makes "the MDIB at MdibVersion v" well defined) -/
def Committing (p : List Act) : Prop :=
  match scan scan0 p with
  | some s => s.ok = true
  | none => False

instance (p : List Act) : Decidable (Committing p) := by
  unfold Committing; cases scan scan0 p <;> infer_instance

/-- the program writes no shared state (a request handler) -/
def ReadOnly (p : List Act) : Prop := ∀ a ∈ p, a.isWrite = false
instance (p : List Act) : Decidable (ReadOnly p) := by unfold ReadOnly; infer_instance

/-- the program never changes an object that is in the table in place (published objects are immutable) -/
def NoMutate (p : List Act) : Prop := ∀ a ∈ p, a.isMutate = false
instance (p : List Act) : Decidable (NoMutate p) := by unfold NoMutate; infer_instance

/-- initial configuration: all locks free, the current (version, content) is the only published pair, no thread
    has started -/
def Init (c : Cfg) : Prop :=
  (∀ l, c.owner l = none) ∧ c.hist = [(c.ver, c.dsc, c.heap c.cur)] ∧ c.cur < c.next ∧
  ∀ j, (c.thr j).todo = (c.thr j).prog ∧ (c.thr j).ref = none ∧ (c.thr j).obsV = [] ∧ (c.thr j).obsD = [] ∧
    (c.thr j).obsC = []

/-- all observations of thread `t` are observations of the published triple `p` -/
def Consistent (t : Thr) (p : Nat × Nat × Nat) : Prop :=
  (∀ v ∈ t.obsV, v = p.1) ∧ (∀ d ∈ t.obsD, d = p.2.1) ∧ (∀ x ∈ t.obsC, x = p.2.2)

/-- configuration with the given programs (thread `k` runs `progs[k]`), version `v`, description `d`, states `x` -/
def mkCfg (progs : List (List Act)) (v d x : Nat) : Cfg :=
  { owner := fun _ => none, ver := v, dsc := d, cur := 0, heap := fun _ => x, next := 1, hist := [(v, d, x)],
    thr := fun j => let p := progs.getD j []; { prog := p, todo := p } }

end Sdc.LockLts
