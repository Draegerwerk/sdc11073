/-!
# hex helpers of the HTTP chunk framing (C17)

`toHexBytes n` = `f'{n:x}'.encode()` (lower-case, no prefix, "0" for zero);
`pyIntHex bs` = `int(bs.strip(), 16)` of CPython for a `bytes` argument, with the complete literal grammar
(ASCII white space, one sign, `0x`/`0X` prefix followed by at most one `_`, single underscores between digits).
Bytes are `Nat`s below 256. Core Lean only.
-/
namespace Sdc.ChunkHex

def hexDigitL (d : Nat) : Nat := if d < 10 then 48 + d else 87 + d

/-- value of one ASCII hex digit (`0-9a-fA-F`) -/
def hexValB? (b : Nat) : Option Nat :=
  if 48 ≤ b ∧ b ≤ 57 then some (b - 48)
  else if 97 ≤ b ∧ b ≤ 102 then some (b - 87)
  else if 65 ≤ b ∧ b ≤ 70 then some (b - 55) else none

/-- digits, least significant first -/
def toHexRev : Nat → Nat → List Nat
  | 0, _ => []
  | f+1, n => if n < 16 then [hexDigitL n] else hexDigitL (n % 16) :: toHexRev f (n / 16)

/-- `f'{n:x}'` as bytes -/
def toHexBytes (n : Nat) : List Nat := (toHexRev (n+1) n).reverse

/-- `bytes.isspace` / `Py_ISSPACE`: space, \t \n \v \f \r -/
def isSpaceB (b : Nat) : Bool := b == 32 || (9 ≤ b && b ≤ 13)

/-- `bytes.strip()` -/
def stripB (bs : List Nat) : List Nat := ((bs.dropWhile isSpaceB).reverse.dropWhile isSpaceB).reverse

/-- digits with single underscores in between; `us` = the previous byte was an underscore (or nothing was read yet) -/
def hexDigitsUS (acc : Nat) (us : Bool) : List Nat → Option Nat
  | [] => if us then none else some acc
  | b :: r =>
    if b = 95 then (if us then none else hexDigitsUS acc true r)
    else match hexValB? b with
      | some d => hexDigitsUS (acc * 16 + d) false r
      | none => none

/-- remove a `0x` / `0X` prefix and the one underscore allowed behind it -/
def dropHexPrefix : List Nat → List Nat
  | 48 :: x :: r =>
    if x = 120 ∨ x = 88 then (match r with | 95 :: r' => r' | _ => r) else 48 :: x :: r
  | s => s

/-- `int(bs.strip(), 16)`; `none` = ValueError -/
def pyIntHex (bs : List Nat) : Option Int :=
  match stripB bs with
  | 45 :: r => (hexDigitsUS 0 true (dropHexPrefix r)).map (fun v => - (v : Int))
  | 43 :: r => (hexDigitsUS 0 true (dropHexPrefix r)).map (fun v => (v : Int))
  | s => (hexDigitsUS 0 true (dropHexPrefix s)).map (fun v => (v : Int))

theorem hexValB_hexDigitL (d : Nat) (h : d < 16) : hexValB? (hexDigitL d) = some d := by
  unfold hexDigitL
  split
  · unfold hexValB?; rw [if_pos (by omega), Nat.add_sub_cancel_left]
  · unfold hexValB?; rw [if_neg (by omega), if_pos (by omega), Nat.add_sub_cancel_left]

/-- a lower-case hex digit byte: `0-9` or `a-f` -/
def IsLowerHex (b : Nat) : Prop := (48 ≤ b ∧ b ≤ 57) ∨ (97 ≤ b ∧ b ≤ 102)

theorem hexDigitL_lower (d : Nat) (h : d < 16) : IsLowerHex (hexDigitL d) := by
  unfold IsLowerHex hexDigitL; split <;> omega

theorem hexValB_isSome_of_lower {b : Nat} (hb : IsLowerHex b) : (hexValB? b).isSome = true := by
  unfold hexValB?
  rcases hb with h | h
  · rw [if_pos h]; rfl
  · rw [if_neg (by omega), if_pos h]; rfl

theorem toHexRev_lower (f n : Nat) : ∀ b ∈ toHexRev f n, IsLowerHex b := by
  induction f generalizing n with
  | zero => intro b hb; cases hb
  | succ f ih =>
    intro b hb
    unfold toHexRev at hb
    split at hb
    · rw [List.mem_singleton.1 hb]; exact hexDigitL_lower _ (by omega)
    · rcases List.mem_cons.1 hb with h | h
      · rw [h]; exact hexDigitL_lower _ (by omega)
      · exact ih _ b h

theorem toHexBytes_lower (n : Nat) : ∀ b ∈ toHexBytes n, IsLowerHex b :=
  fun b hb => toHexRev_lower _ _ b (List.mem_reverse.1 hb)

theorem toHexBytes_ne_nil (n : Nat) : toHexBytes n ≠ [] := by
  unfold toHexBytes toHexRev; split <;> simp

theorem foldr_toHexRev (f n : Nat) (h : n < f) :
    (toHexRev f n).foldr (fun b a => a * 16 + (hexValB? b).getD 0) 0 = n := by
  induction f generalizing n with
  | zero => omega
  | succ f ih =>
    unfold toHexRev
    split
    · rename_i h16
      simp only [List.foldr_cons, List.foldr_nil, hexValB_hexDigitL n h16, Option.getD_some, Nat.zero_mul, Nat.zero_add]
    · have hlt : n / 16 < f := Nat.lt_of_lt_of_le (Nat.div_lt_self (by omega) (by decide)) (Nat.le_of_lt_succ h)
      simp only [List.foldr_cons, ih (n / 16) hlt, hexValB_hexDigitL (n % 16) (Nat.mod_lt _ (by decide)), Option.getD_some]
      exact Nat.div_add_mod' n 16

theorem foldl_toHexBytes (n : Nat) : (toHexBytes n).foldl (fun a b => a * 16 + (hexValB? b).getD 0) 0 = n := by
  unfold toHexBytes
  rw [List.foldl_reverse]
  exact foldr_toHexRev _ _ (by omega)

theorem toHexRev_length (f n k : Nat) (hk : 0 < k) (h : n < 16 ^ k) : (toHexRev f n).length ≤ k := by
  induction f generalizing n k with
  | zero => exact Nat.zero_le _
  | succ f ih =>
    unfold toHexRev
    split
    · exact hk
    · rename_i h16
      match k, hk, h with
      | 1, _, h => exact absurd h h16
      | k + 2, _, h =>
        rw [Nat.pow_succ'] at h
        exact Nat.succ_le_succ (ih (n / 16) (k + 1) (Nat.succ_pos _) (Nat.div_lt_of_lt_mul h))

theorem toHexBytes_length (n k : Nat) (hk : 0 < k) (h : n < 16 ^ k) : (toHexBytes n).length ≤ k := by
  unfold toHexBytes; rw [List.length_reverse]
  exact toHexRev_length _ _ k hk h

/-- `hne`: at the start (`us = true`) `int(.., 16)` requires one digit -/
theorem hexDigitsUS_lower (l : List Nat) (hl : ∀ b ∈ l, IsLowerHex b) (acc : Nat) (us : Bool) (hne : us = true → l ≠ []) :
    hexDigitsUS acc us l = some (l.foldl (fun a b => a * 16 + (hexValB? b).getD 0) acc) := by
  induction l generalizing acc us with
  | nil =>
    cases us with
    | true => exact absurd rfl (hne rfl)
    | false => rfl
  | cons b r ih =>
    have hb := hl b (List.mem_cons_self ..)
    have h95 : b ≠ 95 := by unfold IsLowerHex at hb; omega
    obtain ⟨d, hd⟩ := Option.isSome_iff_exists.1 (hexValB_isSome_of_lower hb)
    rw [hexDigitsUS, if_neg h95, hd, List.foldl_cons, hd]
    exact ih (fun x hx => hl x (List.mem_cons_of_mem _ hx)) _ false (fun h => nomatch h)

theorem stripB_of_lower (l : List Nat) (hl : ∀ b ∈ l, IsLowerHex b) : stripB l = l := by
  have hdw : ∀ l : List Nat, (∀ b ∈ l, IsLowerHex b) → l.dropWhile isSpaceB = l := by
    intro l hl
    cases l with
    | nil => rfl
    | cons b r =>
      have hb := hl b (List.mem_cons_self ..)
      exact List.dropWhile_cons_of_neg (by unfold IsLowerHex at hb; simp only [isSpaceB, Bool.or_eq_true, Bool.and_eq_true, beq_iff_eq, decide_eq_true_eq]; omega)
  unfold stripB
  rw [hdw l hl, hdw l.reverse (fun b hb => hl b (List.mem_reverse.1 hb)), List.reverse_reverse]

theorem dropHexPrefix_of_lower (l : List Nat) (hl : ∀ b ∈ l, IsLowerHex b) : dropHexPrefix l = l := by
  unfold dropHexPrefix
  split
  · rename_i x r
    have hx : IsLowerHex x := hl x (by simp)
    exact if_neg (by unfold IsLowerHex at hx; omega)
  · rfl

theorem pyIntHex_of_lower (l : List Nat) (hl : ∀ b ∈ l, IsLowerHex b) (hne : l ≠ []) :
    pyIntHex l = some ((l.foldl (fun a b => a * 16 + (hexValB? b).getD 0) 0 : Nat) : Int) := by
  unfold pyIntHex
  rw [stripB_of_lower l hl]
  split
  · have := hl 45 (List.mem_cons_self ..); unfold IsLowerHex at this; omega
  · have := hl 43 (List.mem_cons_self ..); unfold IsLowerHex at this; omega
  · rw [dropHexPrefix_of_lower l hl, hexDigitsUS_lower l hl 0 true (fun _ => hne)]; rfl

theorem pyIntHex_toHexBytes (n : Nat) : pyIntHex (toHexBytes n) = some (n : Int) := by
  rw [pyIntHex_of_lower _ (toHexBytes_lower n) (toHexBytes_ne_nil n), foldl_toHexBytes]

end Sdc.ChunkHex
