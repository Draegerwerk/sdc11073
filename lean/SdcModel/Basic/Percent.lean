import SdcModel.Basic.Hex
/-!
# M5 `Basic.Percent` — byte-level percent-encoding

`urllib.parse.quote(s, safe=…)` (`quoteWith`, `quote` = `safe=''`), `quote_plus` (what `urlencode` uses by default),
`_unquote_impl` = `unquote_to_bytes` (`unquoteBytes`), the `'+' -> ' '` replacement of `parse_qsl`, with the
round-trip lemmas. Core Lean only.
-/
namespace Sdc.Percent
open Sdc.Hex

/-- RFC 3986 unreserved bytes (`_ALWAYS_SAFE`): what `quote` never escapes -/
def unreserved (b : Nat) : Bool :=
  decide ((48 ≤ b ∧ b ≤ 57) ∨ (65 ≤ b ∧ b ≤ 90) ∨ (97 ≤ b ∧ b ≤ 122) ∨ b = 45 ∨ b = 46 ∨ b = 95 ∨ b = 126)

/-- `%XX`, upper-case hex -/
def esc (b : Nat) : Bytes := [37, hexU (b / 16), hexU (b % 16)]

/-- `quote_from_bytes(bs, safe)`: `safe` = the additional ASCII bytes left alone -/
def quoteWith (safe : Nat → Bool) : Bytes → Bytes
  | [] => []
  | b :: bs => if unreserved b || safe b then b :: quoteWith safe bs else esc b ++ quoteWith safe bs

/-- `quote(s, safe='')` -/
def quote : Bytes → Bytes := quoteWith (fun _ => false)

/-- `quote(s)` with the default `safe='/'` -/
def quoteSlash : Bytes → Bytes := quoteWith (fun b => b == 47)

/-- `quote_plus(s)`: space becomes `+`, everything else as `quote(s, safe='')` -/
def quotePlus : Bytes → Bytes
  | [] => []
  | b :: bs => if b = 32 then 43 :: quotePlus bs
               else if unreserved b then b :: quotePlus bs else esc b ++ quotePlus bs

/-- the byte that `%XY` at the head of `b :: rest` stands for: `b` is `%` and two hex digits (either case) follow -/
def pctHead (b : Nat) (rest : Bytes) : Option Nat :=
  if b = 37 then
    match rest with
    | x :: y :: _ =>
      match hexVal? x, hexVal? y with
      | some u, some v => some (u * 16 + v)
      | _, _ => none
    | _ => none
  else none

/-- `_unquote_impl`: `%` followed by two hex digits is one byte, every other `%` stays. The first argument is the number
    of bytes still to skip because they were the hex digits of the preceding `%` -/
def unquoteAux : Nat → Bytes → Bytes
  | _, [] => []
  | k + 1, _ :: rest => unquoteAux k rest
  | 0, b :: rest =>
    match pctHead b rest with
    | some v => v :: unquoteAux 2 rest
    | none => b :: unquoteAux 0 rest

def unquoteBytes (bs : Bytes) : Bytes := unquoteAux 0 bs

/-- `s.replace('+', ' ')` -/
def plusToSpace (bs : Bytes) : Bytes := bs.map (fun b => if b = 43 then 32 else b)

/-- bytes that may occur in the output of `quote(…, safe='')`: unreserved or `%` -/
def quoted (b : Nat) : Bool := unreserved b || b == 37

theorem unreserved_iff (b : Nat) : unreserved b = true ↔
    ((48 ≤ b ∧ b ≤ 57) ∨ (65 ≤ b ∧ b ≤ 90) ∨ (97 ≤ b ∧ b ≤ 122) ∨ b = 45 ∨ b = 46 ∨ b = 95 ∨ b = 126) := by
  simp only [unreserved, decide_eq_true_eq]

theorem unreserved_lt {b : Nat} (h : unreserved b = true) : b < 128 := by
  rw [unreserved_iff] at h; omega

theorem unreserved_hexU (n : Nat) (h : n < 16) : unreserved (hexU n) = true := by
  rw [unreserved_iff]; unfold hexU
  split
  · exact Or.inl (by omega)
  · exact Or.inr (Or.inl (by omega))

/-- a byte inside a class `p` differs from a byte outside it; used with a constant `d`, where `p d = false` is `by decide` -/
theorem ne_of_class {p : Nat → Bool} {c d : Nat} (h : p c = true) (hd : p d = false) : c ≠ d :=
  fun e => by rw [e, hd] at h; cases h

theorem not_mem_of_class {p : Nat → Bool} {bs : Bytes} {d : Nat} (h : ∀ b ∈ bs, p b = true) (hd : p d = false) :
    d ∉ bs :=
  fun hm => ne_of_class (h d hm) hd rfl

theorem quoted_of_unreserved {b : Nat} (h : unreserved b = true) : quoted b = true := by simp [quoted, h]

theorem quoted_lt {b : Nat} (h : quoted b = true) : b < 128 := by
  rcases Bool.or_eq_true .. ▸ h with hu | h37
  · exact unreserved_lt hu
  · rw [beq_iff_eq] at h37; omega

theorem esc_quoted (b : Nat) (hb : b < 256) : ∀ c ∈ esc b, quoted c = true := by
  simp only [esc, List.forall_mem_cons]
  exact ⟨by decide, quoted_of_unreserved (unreserved_hexU _ (by omega)),
    quoted_of_unreserved (unreserved_hexU _ (by omega)), nofun⟩

theorem quoteWith_bytes (safe : Nat → Bool) (bs : Bytes) (h : ∀ b ∈ bs, b < 256) :
    ∀ c ∈ quoteWith safe bs, quoted c = true ∨ safe c = true := by
  induction bs with
  | nil => nofun
  | cons b bs ih =>
    obtain ⟨hb, h⟩ := List.forall_mem_cons.mp h
    rw [quoteWith]
    split
    · rename_i hu
      rw [Bool.or_eq_true] at hu
      exact List.forall_mem_cons.mpr ⟨hu.imp_left quoted_of_unreserved, ih h⟩
    · exact List.forall_mem_append.mpr ⟨fun c hc => Or.inl (esc_quoted b hb c hc), ih h⟩

theorem quoteWith_eq_nil {safe : Nat → Bool} {bs : Bytes} (h : quoteWith safe bs = []) : bs = [] := by
  cases bs with
  | nil => rfl
  | cons b bs =>
    rw [quoteWith] at h
    split at h <;> simp [esc] at h

theorem unquoteBytes_nil : unquoteBytes [] = [] := rfl

theorem unquoteBytes_cons_ne (b : Nat) (rest : Bytes) (h : b ≠ 37) :
    unquoteBytes (b :: rest) = b :: unquoteBytes rest := by
  simp [unquoteBytes, unquoteAux, pctHead, h]

theorem unquoteBytes_pct {x y u v : Nat} (hx : hexVal? x = some u) (hy : hexVal? y = some v) (rest : Bytes) :
    unquoteBytes (37 :: x :: y :: rest) = (u * 16 + v) :: unquoteBytes rest := by
  simp only [unquoteBytes, unquoteAux, pctHead, if_true, hx, hy]

theorem unquoteBytes_esc (b : Nat) (hb : b < 256) (rest : Bytes) :
    unquoteBytes (esc b ++ rest) = b :: unquoteBytes rest := by
  have := unquoteBytes_pct (hexVal_hexU (b / 16) (by omega)) (hexVal_hexU (b % 16) (by omega)) rest
  rwa [Nat.div_add_mod' b 16] at this

theorem unquoteBytes_of_not_mem (bs : Bytes) (h : 37 ∉ bs) : unquoteBytes bs = bs := by
  induction bs with
  | nil => exact unquoteBytes_nil
  | cons b bs ih =>
    simp only [List.mem_cons, not_or] at h
    rw [unquoteBytes_cons_ne _ _ (fun e => h.1 e.symm)]
    exact congrArg _ (ih h.2)

theorem unquote_quoteWith (safe : Nat → Bool) (h37 : safe 37 = false) (bs : Bytes) (h : ∀ b ∈ bs, b < 256) :
    unquoteBytes (quoteWith safe bs) = bs := by
  induction bs with
  | nil => exact unquoteBytes_nil
  | cons b bs ih =>
    obtain ⟨hb, h⟩ := List.forall_mem_cons.mp h
    rw [quoteWith]
    split
    · rename_i hu
      have : b ≠ 37 := ne_of_class (p := fun b => unreserved b || safe b) hu (by rw [h37]; decide)
      rw [unquoteBytes_cons_ne _ _ this, ih h]
    · rw [unquoteBytes_esc b hb, ih h]

/-- `unquote_to_bytes(quote(bs, safe='')) == bs` -/
theorem unquote_quote (bs : Bytes) (h : ∀ b ∈ bs, b < 256) : unquoteBytes (quote bs) = bs :=
  unquote_quoteWith _ rfl bs h

theorem quote_quoted (bs : Bytes) (h : ∀ b ∈ bs, b < 256) : ∀ c ∈ quote bs, quoted c = true :=
  fun c hc => (quoteWith_bytes _ bs h c hc).resolve_right nofun

theorem map_eq_self {f : Nat → Nat} {bs : Bytes} (h : ∀ b ∈ bs, f b = b) : bs.map f = bs :=
  (List.map_congr_left h).trans (List.map_id' bs)

theorem plusToSpace_of_not_mem (bs : Bytes) (h : 43 ∉ bs) : plusToSpace bs = bs :=
  map_eq_self fun _ hb => if_neg (ne_of_mem_of_not_mem hb h)

theorem plusToSpace_quote (bs : Bytes) (h : ∀ b ∈ bs, b < 256) : plusToSpace (quote bs) = quote bs :=
  plusToSpace_of_not_mem _ (not_mem_of_class (quote_quoted bs h) (by decide))

/-- `quote_plus(s) = quote(s, safe=' ').replace(' ', '+')`, which is how `urllib` defines it -/
theorem quotePlus_eq_map (bs : Bytes) (h : ∀ b ∈ bs, b < 256) :
    quotePlus bs = (quoteWith (· == 32) bs).map fun b => if b = 32 then 43 else b := by
  induction bs with
  | nil => rfl
  | cons b bs ih =>
    obtain ⟨hb, h⟩ := List.forall_mem_cons.mp h
    rw [quotePlus, quoteWith, ih h]
    by_cases h32 : b = 32
    · simp [h32]
    · by_cases hu : unreserved b = true
      · simp [h32, hu]
      · -- the three bytes of `%XX` are not blanks
        have : (esc b).map (fun b => if b = 32 then 43 else b) = esc b :=
          map_eq_self fun c hc => if_neg (ne_of_class (esc_quoted b hb c hc) (by decide))
        simp [h32, hu, this]

theorem quotePlus_bytes (bs : Bytes) (h : ∀ b ∈ bs, b < 256) : ∀ c ∈ quotePlus bs, quoted c = true ∨ c = 43 := by
  intro c hc
  rw [quotePlus_eq_map bs h] at hc
  obtain ⟨c', hc', rfl⟩ := List.mem_map.mp hc
  rcases quoteWith_bytes _ bs h c' hc' with hq | hs
  · exact Or.inl (by rwa [if_neg (ne_of_class hq (by decide))])
  · exact Or.inr (if_pos (by simpa using hs))

theorem plusToSpace_quotePlus (bs : Bytes) (h : ∀ b ∈ bs, b < 256) :
    plusToSpace (quotePlus bs) = quoteWith (· == 32) bs := by
  rw [quotePlus_eq_map bs h, plusToSpace, List.map_map]
  refine map_eq_self fun c hc => ?_
  rcases quoteWith_bytes _ bs h c hc with hq | hs
  · rw [Function.comp, if_neg (ne_of_class hq (by decide)), if_neg (ne_of_class hq (by decide))]
  · rw [beq_iff_eq.mp hs]; rfl

/-- `unquote_to_bytes(quote_plus(bs).replace('+', ' ')) == bs` : the value path of `urlencode` / `parse_qsl` -/
theorem unquote_plus_quotePlus (bs : Bytes) (h : ∀ b ∈ bs, b < 256) :
    unquoteBytes (plusToSpace (quotePlus bs)) = bs := by
  rw [plusToSpace_quotePlus bs h]
  exact unquote_quoteWith _ (by decide) bs h

end Sdc.Percent
