/-!
# M5 `Basic.Hex` — bytes, hex digits, hex transport encoding of the line protocol

Byte strings are `List Nat` (every element `< 256` wherever it matters; UTF-8 validity, `Basic/Utf8.lean`,
implies it). Python `str` values are represented by their UTF-8 encoding.
-/
namespace Sdc

abbrev Bytes := List Nat

namespace Hex

/-- upper-case hex digit (as a byte) of a value `< 16` — what `'%{:02X}'.format` produces -/
def hexU (n : Nat) : Nat := if n < 10 then 48 + n else 55 + n

/-- lower-case hex digit -/
def hexL (n : Nat) : Nat := if n < 10 then 48 + n else 87 + n

/-- value of a hex digit byte, both cases accepted (`_hexdig = '0123456789ABCDEFabcdef'`) -/
def hexVal? (b : Nat) : Option Nat :=
  if 48 ≤ b ∧ b ≤ 57 then some (b - 48)
  else if 97 ≤ b ∧ b ≤ 102 then some (b - 87)
  else if 65 ≤ b ∧ b ≤ 70 then some (b - 55)
  else none

theorem hexVal?_digit {n : Nat} (h : n < 10) : hexVal? (48 + n) = some n := by
  rw [hexVal?, if_pos (by omega), Nat.add_sub_cancel_left]

theorem hexVal?_lower {n : Nat} (h : 10 ≤ n ∧ n < 16) : hexVal? (87 + n) = some n := by
  rw [hexVal?, if_neg (by omega), if_pos (by omega), Nat.add_sub_cancel_left]

theorem hexVal?_upper {n : Nat} (h : 10 ≤ n ∧ n < 16) : hexVal? (55 + n) = some n := by
  rw [hexVal?, if_neg (by omega), if_neg (by omega), if_pos (by omega), Nat.add_sub_cancel_left]

theorem hexVal_hexU (n : Nat) (h : n < 16) : hexVal? (hexU n) = some n := by
  unfold hexU
  split
  · exact hexVal?_digit ‹_›
  · exact hexVal?_upper ⟨by omega, h⟩

theorem hexVal_hexL (n : Nat) (h : n < 16) : hexVal? (hexL n) = some n := by
  unfold hexL
  split
  · exact hexVal?_digit ‹_›
  · exact hexVal?_lower ⟨by omega, h⟩

theorem hexU_lt (n : Nat) (h : n < 16) : hexU n < 128 := by unfold hexU; split <;> omega

/-! ## transport encoding used by the drivers: `x` followed by lower-case hex pairs (`x` alone = empty string) -/

def decodePairs : List Char → Option Bytes
  | [] => some []
  | [_] => none
  | a :: b :: rest =>
    match hexVal? a.toNat, hexVal? b.toNat, decodePairs rest with
    | some x, some y, some r => some ((x * 16 + y) :: r)
    | _, _, _ => none

/-- `x4a6f` -> bytes; anything else -> none -/
def ofArg (s : String) : Option Bytes :=
  match s.toList with
  | 'x' :: cs => decodePairs cs
  | _ => none

/-- `-` -> `none` (Python `None`), `x…` -> `some bytes` -/
def ofOptArg (s : String) : Option (Option Bytes) :=
  if s = "-" then some none else (ofArg s).map some

def toArg (bs : Bytes) : String :=
  String.ofList ('x' :: bs.flatMap (fun b => [Char.ofNat (hexL (b / 16 % 16)), Char.ofNat (hexL (b % 16))]))

def toOptArg : Option Bytes → String
  | none => "-"
  | some bs => toArg bs

end Hex
end Sdc
