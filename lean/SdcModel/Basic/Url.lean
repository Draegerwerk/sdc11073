import SdcModel.Basic.Percent
import SdcModel.Basic.Utf8
/-!
# M5 `Basic.Url` — byte-level models of `urllib.parse.urlsplit`, `unquote` (on `str`), `parse_qsl`, `str.split`, `str.join`

`str` values are represented by their UTF-8 bytes; all delimiters are ASCII, so splitting at bytes is splitting at
characters. The two checks of `urlsplit` that live in other libraries (`ipaddress` for a bracketed host, NFKC
normalisation of a non-ASCII netloc) are a parameter `chk : Bytes → Bool` ("the library accepts this netloc");
theorems quantify over every `chk`, the harness passes what the real `urlsplit` did.
-/
deriving instance DecidableEq for Except

namespace Sdc.Url
open Sdc.Percent

/-! ## `str.split(sep)` for a one-byte separator, `sep.join(parts)`, split at the first occurrence -/

/-- `s.split(chr(d))` -/
def splitOn (d : Nat) : Bytes → List Bytes
  | [] => [[]]
  | b :: bs =>
    if b = d then [] :: splitOn d bs
    else match splitOn d bs with
      | h :: t => (b :: h) :: t
      | [] => [[b]]

/-- `sep.join(parts)` -/
def join (sep : Bytes) : List Bytes → Bytes
  | [] => []
  | [x] => x
  | x :: y :: r => x ++ sep ++ join sep (y :: r)

/-- `s.split(chr(d), 1)` when `d` occurs: (before, after); `none` when it does not occur -/
def splitFirst (d : Nat) : Bytes → Option (Bytes × Bytes)
  | [] => none
  | b :: bs =>
    if b = d then some ([], bs)
    else match splitFirst d bs with
      | some (x, y) => some (b :: x, y)
      | none => none

/-! ## `urlsplit` -/

structure Split where
  scheme : Bytes
  netloc : Bytes
  path : Bytes
  query : Bytes
  fragment : Bytes
deriving DecidableEq, Repr

def isAlpha (b : Nat) : Bool := decide ((65 ≤ b ∧ b ≤ 90) ∨ (97 ≤ b ∧ b ≤ 122))
def isDigit (b : Nat) : Bool := decide (48 ≤ b ∧ b ≤ 57)
/-- `scheme_chars` -/
def isSchemeChar (b : Nat) : Bool := isAlpha b || isDigit b || b == 43 || b == 45 || b == 46
/-- ASCII part of `str.lower()` (non-ASCII case folding is outside the model, see harness notes) -/
def asciiLower (b : Nat) : Nat := if 65 ≤ b ∧ b ≤ 90 then b + 32 else b
def lower (bs : Bytes) : Bytes := bs.map asciiLower

/-- `url.lstrip(_WHATWG_C0_CONTROL_OR_SPACE)` then removal of tab, CR, LF -/
def cleanUrl (url : Bytes) : Bytes :=
  (url.dropWhile (fun b => decide (b ≤ 32))).filter (fun b => !(b == 9 || b == 10 || b == 13))

/-- scheme detection: `i = url.find(':')`, `i > 0`, first char ASCII letter, all of `url[:i]` in `scheme_chars` -/
def splitScheme (url : Bytes) : Bytes × Bytes :=
  match splitFirst 58 url with
  | some (pre, post) =>
    match pre with
    | c :: _ => if isAlpha c && pre.all isSchemeChar then (lower pre, post) else ([], url)
    | [] => ([], url)
  | none => ([], url)

def isNetlocDelim (b : Nat) : Bool := b == 47 || b == 63 || b == 35

/-- `_splitnetloc(url, 2)` for a url that starts with `//` -/
def splitNetloc (url : Bytes) : Bytes × Bytes :=
  match url with
  | a :: b :: rest => if a = 47 ∧ b = 47 then rest.span (fun b => !isNetlocDelim b) else ([], url)
  | _ => ([], url)

/-- netloc accepted? bracket mismatch is always a `ValueError`; a bracketed host and a non-ASCII netloc are checked
    by `ipaddress` / `unicodedata` = the parameter `chk` -/
def netlocOk (chk : Bytes → Bool) (netloc : Bytes) : Bool :=
  let open_ := netloc.contains 91
  let close := netloc.contains 93
  if open_ != close then false
  else if open_ || netloc.any (fun b => decide (128 ≤ b)) then chk netloc
  else true

/-- `urlsplit(url)`; `none` = `ValueError` -/
def urlsplit (chk : Bytes → Bool) (url : Bytes) : Option Split :=
  let url := cleanUrl url
  let (scheme, url) := splitScheme url
  let (netloc, url) := splitNetloc url
  if netlocOk chk netloc then
    let (url, fragment) := match splitFirst 35 url with
      | some (a, b) => (a, b)
      | none => (url, [])
    let (url, query) := match splitFirst 63 url with
      | some (a, b) => (a, b)
      | none => (url, [])
    some ⟨scheme, netloc, url, query, fragment⟩
  else none

/-! ## `unquote` on `str`, `parse_qsl` -/

/-- `unquote(s)` for a `str` `s` (UTF-8 bytes in, UTF-8 bytes out): unchanged without `%`, else percent-decoded and
    decoded with `errors='replace'` -/
def unquoteStr (bs : Bytes) : Bytes :=
  if bs.contains 37 then Utf8.repair (unquoteBytes bs) else bs

/-- `parse_qsl(qs, keep_blank_values=keep)` (`strict_parsing=False`, `separator='&'`) -/
def parseQsl (keep : Bool) (qs : Bytes) : List (Bytes × Bytes) :=
  if qs = [] then []
  else (splitOn 38 qs).filterMap fun nv =>
    if nv = [] then none
    else match splitFirst 61 nv with
      | some (n, v) =>
        if v ≠ [] || keep then some (unquoteStr (plusToSpace n), unquoteStr (plusToSpace v)) else none
      | none =>
        if keep then some (unquoteStr (plusToSpace nv), unquoteStr (plusToSpace [])) else none

/-- `dict(pairs).get(k)`: the last pair with key `k` wins -/
def dictGet (ps : List (Bytes × Bytes)) (k : Bytes) : Option Bytes :=
  ps.foldl (fun acc p => if p.1 = k then some p.2 else acc) none

/-- `urlencode(pairs)` with `quote_via = q` (`quote_plus` by default, `quote` in scopesfactory) -/
def urlencode (q : Bytes → Bytes) (ps : List (Bytes × Bytes)) : Bytes :=
  join [38] (ps.map fun p => q p.1 ++ 61 :: q p.2)

theorem splitFirst_none {d : Nat} {bs : Bytes} (h : d ∉ bs) : splitFirst d bs = none := by
  induction bs with
  | nil => rfl
  | cons b bs ih =>
    simp only [List.mem_cons, not_or] at h
    simp [splitFirst, show ¬ b = d from fun e => h.1 e.symm, ih h.2]

theorem splitFirst_append {d : Nat} {a : Bytes} (b : Bytes) (h : d ∉ a) :
    splitFirst d (a ++ d :: b) = some (a, b) := by
  induction a with
  | nil => simp [splitFirst]
  | cons x a ih =>
    simp only [List.mem_cons, not_or] at h
    simp [splitFirst, show ¬ x = d from fun e => h.1 e.symm, ih h.2]

theorem splitOn_ne_nil (d : Nat) (bs : Bytes) : splitOn d bs ≠ [] := by
  cases bs with
  | nil => simp [splitOn]
  | cons b bs =>
    simp only [splitOn]
    split
    · simp
    · split <;> simp

theorem splitOn_of_not_mem {d : Nat} {bs : Bytes} (h : d ∉ bs) : splitOn d bs = [bs] := by
  induction bs with
  | nil => rfl
  | cons b bs ih =>
    simp only [List.mem_cons, not_or] at h
    simp [splitOn, show ¬ b = d from fun e => h.1 e.symm, ih h.2]

theorem splitOn_append {d : Nat} {a : Bytes} (b : Bytes) (h : d ∉ a) :
    splitOn d (a ++ d :: b) = a :: splitOn d b := by
  induction a with
  | nil => simp [splitOn]
  | cons x a ih =>
    simp only [List.mem_cons, not_or] at h
    simp [splitOn, show ¬ x = d from fun e => h.1 e.symm, ih h.2]

theorem splitOn_join {d : Nat} {xs : List Bytes} (hne : xs ≠ []) (h : ∀ y ∈ xs, d ∉ y) :
    splitOn d (join [d] xs) = xs := by
  induction xs with
  | nil => exact absurd rfl hne
  | cons x xs ih =>
    obtain ⟨hx, h⟩ := List.forall_mem_cons.mp h
    cases xs with
    | nil => exact splitOn_of_not_mem hx
    | cons y ys => rw [join, List.append_assoc, List.singleton_append, splitOn_append _ hx, ih (List.cons_ne_nil y ys) h]

theorem join_sep_inj {d : Nat} {xs ys : List Bytes} (hx : xs ≠ []) (hy : ys ≠ []) (h1 : ∀ x ∈ xs, d ∉ x)
    (h2 : ∀ y ∈ ys, d ∉ y) : join [d] xs = join [d] ys ↔ xs = ys :=
  ⟨fun e => by rw [← splitOn_join hx h1, e, splitOn_join hy h2], fun e => e ▸ rfl⟩

theorem forall_mem_join {P : Nat → Prop} {sep : Bytes} {xs : List Bytes} (hs : ∀ b ∈ sep, P b)
    (hx : ∀ x ∈ xs, ∀ b ∈ x, P b) : ∀ b ∈ join sep xs, P b := by
  induction xs with
  | nil => nofun
  | cons x xs ih =>
    obtain ⟨h1, h2⟩ := List.forall_mem_cons.mp hx
    cases xs with
    | nil => exact h1
    | cons y ys =>
      rw [join]
      exact List.forall_mem_append.mpr ⟨List.forall_mem_append.mpr ⟨h1, hs⟩, ih h2⟩

theorem join_cons_ne_nil {sep : Bytes} {x : Bytes} {xs : List Bytes} (hx : x ≠ []) : join sep (x :: xs) ≠ [] := by
  cases xs with
  | nil => exact hx
  | cons y ys => simp [join, hx]

theorem dictGet_foldl_absent {k : Bytes} {ps : List (Bytes × Bytes)} (h : ∀ p ∈ ps, p.1 ≠ k) (init : Option Bytes) :
    ps.foldl (fun acc p => if p.1 = k then some p.2 else acc) init = init := by
  induction ps generalizing init with
  | nil => rfl
  | cons p ps ih =>
    rw [List.foldl_cons, if_neg (h p (List.mem_cons_self ..))]
    exact ih (fun q hq => h q (List.mem_cons_of_mem _ hq)) init

theorem dictGet_absent {k : Bytes} {ps : List (Bytes × Bytes)} (h : ∀ p ∈ ps, p.1 ≠ k) : dictGet ps k = none :=
  dictGet_foldl_absent h none

theorem dictGet_cons_self {k : Bytes} {ps : List (Bytes × Bytes)} (v : Bytes) (h : ∀ p ∈ ps, p.1 ≠ k) :
    dictGet ((k, v) :: ps) k = some v := by
  unfold dictGet
  rw [List.foldl_cons, if_pos rfl]
  exact dictGet_foldl_absent h _

theorem dictGet_cons_ne {k : Bytes} {p : Bytes × Bytes} (ps : List (Bytes × Bytes)) (h : p.1 ≠ k) :
    dictGet (p :: ps) k = dictGet ps k := by
  unfold dictGet
  rw [List.foldl_cons, if_neg h]

theorem unquoteStr_eq {x bs : Bytes} (h : unquoteBytes x = bs) (hv : Utf8.valid bs = true) : unquoteStr x = bs := by
  unfold unquoteStr
  split
  · rw [h, Utf8.repair_of_valid hv]
  · rename_i hc
    rw [← h, unquoteBytes_of_not_mem x (by simpa using hc)]

theorem unquoteStr_quote {bs : Bytes} (h : Utf8.valid bs = true) : unquoteStr (quote bs) = bs :=
  unquoteStr_eq (unquote_quote bs (Utf8.lt_of_valid h)) h

/-- a quoting function whose output consists of unreserved bytes, `%` and `+`, and which `parse_qsl` undoes -/
structure QuoteOk (q : Bytes → Bytes) : Prop where
  bytes : ∀ bs, Utf8.valid bs = true → ∀ b ∈ q bs, quoted b = true ∨ b = 43
  undo : ∀ bs, Utf8.valid bs = true → unquoteStr (plusToSpace (q bs)) = bs

theorem QuoteOk.not_mem {q : Bytes → Bytes} (hq : QuoteOk q) (d : Nat) (hd : (quoted d || d == 43) = false)
    {bs : Bytes} (h : Utf8.valid bs = true) : d ∉ q bs := by
  rw [Bool.or_eq_false_iff, beq_eq_false_iff_ne] at hd
  exact fun hm => (hq.bytes bs h d hm).elim (fun hc => ne_of_class hc hd.1 rfl) hd.2

theorem quoteOk_quote : QuoteOk quote where
  bytes bs h := fun b hb => Or.inl (quote_quoted bs (Utf8.lt_of_valid h) b hb)
  undo bs h := by
    rw [plusToSpace_quote bs (Utf8.lt_of_valid h)]
    exact unquoteStr_quote h

theorem quoteOk_quotePlus : QuoteOk quotePlus where
  bytes bs h := quotePlus_bytes bs (Utf8.lt_of_valid h)
  undo bs h := unquoteStr_eq (unquote_plus_quotePlus bs (Utf8.lt_of_valid h)) h

def PairsValid (ps : List (Bytes × Bytes)) : Prop := ∀ p ∈ ps, Utf8.valid p.1 = true ∧ Utf8.valid p.2 = true

private theorem filterMap_map_of_some {α β : Type} {f : β → Option α} {g : α → β} {l : List α}
    (h : ∀ x ∈ l, f (g x) = some x) : (l.map g).filterMap f = l := by
  induction l with
  | nil => rfl
  | cons x l ih =>
    obtain ⟨hx, h⟩ := List.forall_mem_cons.mp h
    rw [List.map_cons, List.filterMap_cons, hx, ih h]

theorem parseQsl_urlencode {q : Bytes → Bytes} (hq : QuoteOk q) (keep : Bool) (ps : List (Bytes × Bytes))
    (hv : PairsValid ps) (hkeep : keep = true ∨ ∀ p ∈ ps, q p.2 ≠ []) : parseQsl keep (urlencode q ps) = ps := by
  cases ps with
  | nil => rfl
  | cons p ps =>
    have hne : urlencode q (p :: ps) ≠ [] := join_cons_ne_nil (by simp)
    have hsplit : splitOn 38 (urlencode q (p :: ps)) = (p :: ps).map fun p => q p.1 ++ 61 :: q p.2 := by
      refine splitOn_join (by simp) fun y hy => ?_
      obtain ⟨r, hr, rfl⟩ := List.mem_map.mp hy
      obtain ⟨h1, h2⟩ := hv r hr
      simp only [List.mem_append, List.mem_cons, not_or]
      exact ⟨hq.not_mem 38 (by decide) h1, by decide, hq.not_mem 38 (by decide) h2⟩
    rw [parseQsl, if_neg hne, hsplit]
    -- every piece `q(k)=q(v)` is parsed back to `(k, v)`
    refine filterMap_map_of_some fun r hr => ?_
    obtain ⟨h1, h2⟩ := hv r hr
    have hk : (decide (q r.2 ≠ []) || keep) = true := by
      rcases hkeep with h | h
      · rw [h, Bool.or_true]
      · rw [decide_eq_true (h r hr), Bool.true_or]
    simp only [List.append_eq_nil_iff, reduceCtorEq, and_false, if_false,
      splitFirst_append _ (hq.not_mem 61 (by decide) h1), hq.undo _ h1, hq.undo _ h2, hk, if_true]

end Sdc.Url
