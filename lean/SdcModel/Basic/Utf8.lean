import SdcModel.Basic.Hex
/-!
# M5 `Basic.Utf8` — UTF-8 validity and `bytes.decode('utf-8', errors='replace')` at byte level

`repair bs` is the UTF-8 encoding of `bs.decode('utf-8', 'replace')`: every maximal ill-formed subpart is replaced by
U+FFFD (`EF BF BD`), well-formed sequences are kept (CPython's decoder follows the Unicode "maximal subpart" practice).
`valid bs` ⇔ `bs.decode('utf-8')` succeeds. Both are under correspondence (driver op `utf8`).
-/
namespace Sdc.Utf8

def isCont (b : Nat) : Bool := decide (128 ≤ b ∧ b ≤ 191)

/-- admissible second byte after the lead byte `b0` of a 3-byte sequence (no overlong forms, no surrogates) -/
def second3 (b0 b1 : Nat) : Bool :=
  if b0 = 224 then decide (160 ≤ b1 ∧ b1 ≤ 191)
  else if b0 = 237 then decide (128 ≤ b1 ∧ b1 ≤ 159)
  else isCont b1

/-- admissible second byte of a 4-byte sequence (no overlong forms, nothing above U+10FFFF) -/
def second4 (b0 b1 : Nat) : Bool :=
  if b0 = 240 then decide (144 ≤ b1 ∧ b1 ≤ 191)
  else if b0 = 244 then decide (128 ≤ b1 ∧ b1 ≤ 143)
  else isCont b1

def fffd : Bytes := [239, 191, 189]

def valid : Bytes → Bool
  | [] => true
  | b0 :: rest =>
    if b0 < 128 then valid rest
    else if 194 ≤ b0 ∧ b0 ≤ 223 then
      match rest with
      | b1 :: r => isCont b1 && valid r
      | [] => false
    else if 224 ≤ b0 ∧ b0 ≤ 239 then
      match rest with
      | b1 :: b2 :: r => second3 b0 b1 && isCont b2 && valid r
      | _ => false
    else if 240 ≤ b0 ∧ b0 ≤ 244 then
      match rest with
      | b1 :: b2 :: b3 :: r => second4 b0 b1 && isCont b2 && isCont b3 && valid r
      | _ => false
    else false

def repair : Bytes → Bytes
  | [] => []
  | b0 :: rest =>
    if b0 < 128 then b0 :: repair rest
    else if 194 ≤ b0 ∧ b0 ≤ 223 then
      match rest with
      | b1 :: r => if isCont b1 then b0 :: b1 :: repair r else fffd ++ repair (b1 :: r)
      | [] => fffd
    else if 224 ≤ b0 ∧ b0 ≤ 239 then
      match rest with
      | b1 :: r1 =>
        if second3 b0 b1 then
          match r1 with
          | b2 :: r2 => if isCont b2 then b0 :: b1 :: b2 :: repair r2 else fffd ++ repair (b2 :: r2)
          | [] => fffd
        else fffd ++ repair (b1 :: r1)
      | [] => fffd
    else if 240 ≤ b0 ∧ b0 ≤ 244 then
      match rest with
      | b1 :: r1 =>
        if second4 b0 b1 then
          match r1 with
          | b2 :: r2 =>
            if isCont b2 then
              match r2 with
              | b3 :: r3 => if isCont b3 then b0 :: b1 :: b2 :: b3 :: repair r3 else fffd ++ repair (b3 :: r3)
              | [] => fffd
            else fffd ++ repair (b2 :: r2)
          | [] => fffd
        else fffd ++ repair (b1 :: r1)
      | [] => fffd
    else fffd ++ repair rest

theorem isCont_lt {b : Nat} (h : isCont b = true) : b < 256 := by
  simp only [isCont, decide_eq_true_eq] at h; omega

theorem second3_lt {a b : Nat} (h : second3 a b = true) : b < 256 := by
  unfold second3 at h
  split at h
  · simp only [decide_eq_true_eq] at h; omega
  · split at h
    · simp only [decide_eq_true_eq] at h; omega
    · exact isCont_lt h

theorem second4_lt {a b : Nat} (h : second4 a b = true) : b < 256 := by
  unfold second4 at h
  split at h
  · simp only [decide_eq_true_eq] at h; omega
  · split at h
    · simp only [decide_eq_true_eq] at h; omega
    · exact isCont_lt h

/-- the branches of `valid` that accept are the branches of `repair` that copy -/
private theorem valid_aux (bs : Bytes) : valid bs = true → repair bs = bs ∧ ∀ b ∈ bs, b < 256 := by
  fun_induction valid bs with
  | case1 => exact fun _ => ⟨by rw [repair], nofun⟩
  -- ASCII byte
  | case2 b0 rest h0 ih =>
    intro hv
    obtain ⟨e, l⟩ := ih hv
    exact ⟨by unfold repair; rw [if_pos h0, e], List.forall_mem_cons.mpr ⟨by omega, l⟩⟩
  -- two-byte sequence: lead `C2..DF`, one continuation byte
  | case3 b0 h0 h1 b1 r ih =>
    intro hv
    rw [Bool.and_eq_true] at hv
    obtain ⟨e, l⟩ := ih hv.2
    constructor
    · unfold repair
      rw [if_neg h0, if_pos h1]
      simp only [hv.1, if_true, e]
    · simp only [List.forall_mem_cons]
      exact ⟨by omega, isCont_lt hv.1, l⟩
  -- three-byte sequence: lead `E0..EF`
  | case5 b0 h0 h1 h2 b1 b2 r ih =>
    intro hv
    simp only [Bool.and_eq_true] at hv
    obtain ⟨e, l⟩ := ih hv.2
    constructor
    · unfold repair
      rw [if_neg h0, if_neg h1, if_pos h2]
      simp only [hv.1.1, hv.1.2, if_true, e]
    · simp only [List.forall_mem_cons]
      exact ⟨by omega, second3_lt hv.1.1, isCont_lt hv.1.2, l⟩
  -- four-byte sequence: lead `F0..F4`
  | case7 b0 h0 h1 h2 h3 b1 b2 b3 r ih =>
    intro hv
    simp only [Bool.and_eq_true] at hv
    obtain ⟨e, l⟩ := ih hv.2
    constructor
    · unfold repair
      rw [if_neg h0, if_neg h1, if_neg h2, if_pos h3]
      simp only [hv.1.1.1, hv.1.1.2, hv.1.2, if_true, e]
    · simp only [List.forall_mem_cons]
      exact ⟨by omega, second4_lt hv.1.1.1, isCont_lt hv.1.1.2, isCont_lt hv.1.2, l⟩
  -- a sequence cut short (`case4`, `case6`, `case8`) or a byte that cannot lead (`case9`): `valid` is `false`
  | case4 | case6 | case8 | case9 => exact nofun

theorem repair_of_valid {bs : Bytes} (h : valid bs = true) : repair bs = bs :=
  (valid_aux bs h).1

theorem lt_of_valid {bs : Bytes} (h : valid bs = true) : ∀ b ∈ bs, b < 256 :=
  (valid_aux bs h).2

end Sdc.Utf8
