/-!
# `XmlBinding` — the declarative property descriptors of `xml_structure.py`

One definition per descriptor *kind* giving `write : Val → Xml → Option Xml` (`update_xml_value`, `none` = the code
raises) and `read : Xml → Option Val` (`get_py_value_from_node` as seen through `update_from_node`). A class is an
ordered list of `(name, kind)` from the *generated* schema table (`Generated/Schema.lean`); `writeCls` / `readCls`
transcribe `XMLTypeBase.as_etree_node / from_node` and `ContainerBase.mk_node / from_node`.

Scalar converters (`dataconverters.py`, `text_to_qname`, `isoduration`) are *abstract*: a `Codec` maps a converter
identifier and a Python scalar (an opaque token) to its lexical form and back; the list forms (`' '.join`, `split`)
are part of the codec as well. Nested objects are reached through call-backs (`Wr`, `Rd`) so that every kind is a
first-order combinator; `writeCls` / `readCls` tie the knot with a depth bound (`fuel`).
XML: namespaces are resolved; element tags and attribute names are interned as numbers by the harness (injectively, from
their Clark notation; the table is part of `Generated/Schema.lean`), QName-valued content is resolved to Clark notation.
Text `""` stands for "no text" (`None` and `''` are the same after serialisation).
-/
namespace Sdc.XmlBinding

inductive Xml where
  | node (tag : Nat) (attrs : List (Nat × String)) (kids : List Xml) (text : String)
deriving Repr, Inhabited

inductive Val where
  | none
  | atom (s : String)                    -- a Python scalar (opaque token)
  | list (vs : List Val)
  | obj (cls : Nat) (fields : List Val)  -- instance of class `cls`; one field per property, in `_props` order
  | raw (xs : List Xml)                  -- lxml elements (extension content, any-content)
deriving Repr, Inhabited

structure Codec where
  toXml : String → String → Option String      -- converter id → python token → lexical form (`none` = raises)
  toPy : String → String → Option String       -- converter id → lexical form → python token
  join : List String → String                  -- `' '.join(items)`
  split : String → List String                 -- `text.split()` / `split(' ')` without empty items
  now : String                                 -- python token of `time.time()` (CurrentTimestampAttributeProperty)

/-- names (element tags, attribute names) are interned by the harness as numbers; 0 = `xsi:type` -/
abbrev Name := Nat

def xsiType : Name := 0

namespace Xml
def tag : Xml → Nat | node t _ _ _ => t
def attrs : Xml → List (Nat × String) | node _ a _ _ => a
def kids : Xml → List Xml | node _ _ k _ => k
def text : Xml → String | node _ _ _ x => x
def setAttrs (a : List (Nat × String)) : Xml → Xml | node t _ k x => node t a k x
def setKids (k : List Xml) : Xml → Xml | node t a _ x => node t a k x
def setText (x : String) : Xml → Xml | node t a k _ => node t a k x
def empty (tag : Nat) : Xml := node tag [] [] ""
end Xml

/-! ### attributes (order is irrelevant: the canonical form sorts them) -/
abbrev Attrs := List (Nat × String)
def getAttr (a : Attrs) (k : Nat) : Option String := (a.find? (·.1 == k)).map (·.2)
def delAttr (a : Attrs) (k : Nat) : Attrs := a.filter (fun p => !(p.1 == k))
def setAttr (a : Attrs) (k : Nat) (v : String) : Attrs := delAttr a k ++ [(k, v)]

/-! ### children -/
def named (n : Nat) (ks : List Xml) : List Xml := ks.filter (·.tag == n)
def firstNamed (n : Nat) (ks : List Xml) : Option Xml := ks.find? (·.tag == n)
def removeAll (n : Nat) (ks : List Xml) : List Xml := ks.filter (fun k => !(k.tag == n))
/-- `node.remove(node.find(n))` -/
def removeFirst (n : Nat) : List Xml → List Xml
  | [] => []
  | k :: ks => if k.tag == n then ks else k :: removeFirst n ks
/-- `_get_element_by_child_name(..., create_missing_nodes=True)` followed by an update of that element -/
def modifyFirst (n : Nat) (f : Xml → Xml) : List Xml → List Xml
  | [] => [f (Xml.empty n)]
  | k :: ks => if k.tag == n then f k :: ks else k :: modifyFirst n f ks

/-- update the element a property lives in: the node itself (`sub_element_name is None`) or its first / new child -/
def onElem (sub : Option Nat) (f : Xml → Xml) (x : Xml) : Xml :=
  match sub with
  | none => f x
  | some n => x.setKids (modifyFirst n f x.kids)

def elemOf (sub : Option Nat) (x : Xml) : Option Xml :=
  match sub with
  | none => some x
  | some n => firstNamed n x.kids

def dropElem (sub : Option Nat) (x : Xml) : Xml :=
  match sub with
  | none => x
  | some n => x.setKids (removeFirst n x.kids)

/-! ### the descriptor kinds -/
inductive TextStyle where
  | plain | enumQName | qname | date
deriving Repr, DecidableEq, Inhabited

inductive RawStyle where
  | ext | any | anyList
deriving Repr, DecidableEq, Inhabited

inductive Kind where
  /-- `_AttributeBase` (all scalar attribute properties; `volatile` = CurrentTimestampAttributeProperty) -/
  | attr (name : Nat) (conv : String) (optional volatile : Bool)
  /-- `_AttributeListBase` -/
  | attrList (name : Nat) (conv : String) (optional : Bool)
  /-- `NodeTextProperty` family, `NodeEnumQNameProperty`, `NodeTextQNameProperty`, `DateOfBirthProperty` -/
  | text (sub : Option Nat) (conv : String) (optional minLen : Bool) (style : TextStyle) (dflt : Option String)
  /-- `NodeTextListProperty`, `NodeTextQNameListProperty` -/
  | textList (sub : Option Nat) (conv : String) (optional : Bool)
  /-- `SubElementTextListProperty` -/
  | subTextList (name : Nat) (conv : String)
  /-- `SubElementProperty`, `ContainerProperty`, `SubElementWithSubElementListProperty` -/
  | sub (name : Option Nat) (cls : Nat) (optional container skipEmpty : Bool) (dispatch : Nat) (dflt : Option Val)
  /-- `SubElementListProperty`, `ContainerListProperty` -/
  | subList (name : Nat) (cls : Nat) (container : Bool) (dispatch : Nat)
  /-- `ExtensionNodeProperty`, `AnyEtreeNodeProperty`, `AnyEtreeNodeListProperty` -/
  | raw (sub : Option Nat) (style : RawStyle) (optional : Bool)
deriving Repr, Inhabited

structure PropE where
  name : String
  kind : Kind
deriving Repr, Inhabited

structure ClsE where
  name : String
  hasNT : Bool                 -- the class has a `NODETYPE` attribute
  nodeType : Option String     -- its value (`none` = `None`)
  props : List PropE
deriving Repr, Inhabited

structure Schema where
  classes : List ClsE
  types : List (Nat × String × Nat)    -- (registry, xsi:type QName, class) for `value_class_from_node` / `cls_getter`
deriving Repr, Inhabited

def Schema.cls (S : Schema) (c : Nat) : Option ClsE := S.classes[c]?
def Schema.props (S : Schema) (c : Nat) : List PropE := match S.cls c with | some e => e.props | none => []
def Schema.lookupType (S : Schema) (reg : Nat) (q : String) : Option Nat :=
  (S.types.find? fun t => t.1 == reg && t.2.1 == q).map (·.2.2)

abbrev Wr := Nat → List Val → Xml → Option Xml     -- write the properties of class c into a node
abbrev Rd := Nat → Xml → Option Val                -- read an instance of class c from a node

def mapM' {α β : Type} (f : α → Option β) : List α → Option (List β)
  | [] => some []
  | a :: as => match f a, mapM' f as with
    | some b, some bs => some (b :: bs)
    | _, _ => none

def atoms : List Val → Option (List String)
  | [] => some []
  | .atom s :: vs => (atoms vs).map (s :: ·)
  | _ :: _ => none

def Val.isEmptyObj : Val → Bool
  | .obj _ fs => fs.all fun f => match f with
    | .none => true
    | .list [] => true
    | .raw [] => true
    | _ => false
  | _ => false

/-- the `xsi:type` a nested value gets: none if its class is the declared one or their NODETYPEs agree -/
def xsiFor (S : Schema) (container : Bool) (decl actual : Nat) : Option (Option String) :=
  match S.cls decl, S.cls actual with
  | some d, some a =>
    if (container || (d.hasNT && a.hasNT)) && a.nodeType != d.nodeType then
      match a.nodeType with
      | some q => some (some q)
      | none => none                      -- `docname_from_qname(None, ...)` raises
    else some none
  | _, _ => none

def withXsi (t : Option String) (x : Xml) : Xml :=
  match t with
  | some q => x.setAttrs (setAttr x.attrs xsiType q)
  | none => x

/-- the class used to read a nested element (`value_class_from_node`, `cls_getter`) -/
def readClass (S : Schema) (dispatch decl : Nat) (x : Xml) : Option Nat :=
  if dispatch = 0 then some decl
  else match getAttr x.attrs xsiType with
    | none => some decl
    | some q => S.lookupType dispatch q

def writeItems (S : Schema) (wr : Wr) (name : Nat) (decl : Nat) (container : Bool) : List Val → Option (List Xml)
  | [] => some []
  | .obj c fs :: vs =>
    match wr c fs (Xml.empty name), xsiFor S container decl c, writeItems S wr name decl container vs with
    | some ch, some t, some chs => some (withXsi t ch :: chs)
    | _, _, _ => none
  | _ :: _ => none

/-- `update_xml_value` -/
def writeKind (C : Codec) (S : Schema) (wr : Wr) : Kind → Val → Xml → Option Xml
  | .attr n conv opt vol, v, x =>
    match (if vol then Val.atom C.now else v) with
    | .none => if opt then some (x.setAttrs (delAttr x.attrs n)) else none
    | .atom s => (C.toXml conv s).map fun l => x.setAttrs (setAttr x.attrs n l)
    | _ => none
  | .attrList n conv opt, v, x =>
    match v with
    | .none => if opt then some (x.setAttrs (delAttr x.attrs n)) else none
    | .list vs =>
      if vs.isEmpty && opt then some (x.setAttrs (delAttr x.attrs n))
      else match atoms vs with
        | some ss => (mapM' (C.toXml conv) ss).map fun ls => x.setAttrs (setAttr x.attrs n (C.join ls))
        | none => none
    | _ => none
  | .text sub conv opt minLen style _, v, x =>
    match v with
    | .none =>
      match style with
      | .date => some (dropElem sub x)
      | .qname =>
        if sub.isNone then some (x.setText "")
        else if opt then some (dropElem sub x) else none
      | _ =>
        if !opt && minLen then none
        else if sub.isNone then some (x.setText "")
        else if opt then some (dropElem sub x)
        else some (onElem sub (·.setText "") x)
    | .atom s => (C.toXml conv s).map fun l => onElem sub (·.setText l) x
    | _ => none
  | .textList sub conv opt, v, x =>
    match v with
    | .none =>
      if sub.isNone then some (x.setText "")
      else if opt then some (dropElem sub x) else none
    | .list vs => match atoms vs with
      | some ss => (mapM' (C.toXml conv) ss).map fun ls => onElem sub (·.setText (C.join ls)) x
      | none => none
    | _ => none
  | .subTextList n conv, v, x =>
    match v with
    | .none => some x
    | .list [] => some x
    | .list vs => match atoms vs with
      | some ss => (mapM' (C.toXml conv) ss).map fun ls =>
          x.setKids (removeAll n x.kids ++ ls.map fun l => (Xml.empty n).setText l)
      | none => none
    | _ => none
  | .sub name decl opt container skipEmpty _ _, v, x =>
    match v with
    | .none => if opt || skipEmpty then some x else none
    | .obj c fs =>
      if skipEmpty && (Val.obj c fs).isEmptyObj then some x
      else match name with
        | none =>        -- the container lives in the node itself (`update_node`)
          match wr c fs x, xsiFor S container decl c with
          | some x', some t => some (withXsi t x')
          | _, _ => none
        | some n =>
          match wr c fs (Xml.empty n), xsiFor S container decl c with
          | some ch, some t =>
            some (x.setKids ((if container || skipEmpty then removeFirst n x.kids else x.kids) ++ [withXsi t ch]))
          | _, _ => none
    | _ => none
  | .subList n decl container _, v, x =>
    match v with
    | .none => some (if container then x.setKids (removeAll n x.kids) else x)
    | .list vs => (writeItems S wr n decl container vs).map fun chs =>
        x.setKids ((if container then removeAll n x.kids else x.kids) ++ chs)
    | _ => none
  | .raw sub style opt, v, x =>
    match style, v with
    | .ext, .none => some x
    | .ext, .raw [] => some x
    | .ext, .raw xs => some (onElem sub (fun e => e.setKids (e.kids ++ xs)) x)
    | .any, .none => if opt then some (dropElem sub x) else none
    | .any, .raw xs => some (onElem sub (fun e => e.setKids (e.kids ++ xs)) x)
    | .anyList, .none => some (if opt then dropElem sub x else x)
    | .anyList, .raw [] => some (if opt then dropElem sub x else x)
    | .anyList, .raw xs => some (onElem sub (fun e => e.setKids (e.kids ++ xs)) x)
    | _, _ => none

def readItems (S : Schema) (rd : Rd) (dispatch decl : Nat) : List Xml → Option (List Val)
  | [] => some []
  | ch :: chs => match (readClass S dispatch decl ch).bind (fun c => rd c ch), readItems S rd dispatch decl chs with
    | some v, some vs => some (v :: vs)
    | _, _ => none

/-- `get_py_value_from_node` + `update_from_node` (the value the instance holds afterwards) -/
def readKind (C : Codec) (S : Schema) (rd : Rd) : Kind → Xml → Option Val
  | .attr n conv _ _, x =>
    match getAttr x.attrs n with
    | none => some .none
    | some l => (C.toPy conv l).map Val.atom
  | .attrList n conv _, x =>
    match getAttr x.attrs n with
    | none => some (.list [])
    | some l => (mapM' (C.toPy conv) (C.split l)).map fun ts => .list (ts.map Val.atom)
  | .text sub conv _ _ style dflt, x =>
    match elemOf sub x with
    | none => some (match style, dflt with
        | .enumQName, some d => .atom d
        | _, _ => .none)
    | some e =>
      if style == .qname && e.text == "" then some .none
      else (C.toPy conv e.text).map Val.atom
  | .textList sub conv _, x =>
    match elemOf sub x with
    | none => some (.list [])
    | some e => (mapM' (C.toPy conv) (C.split e.text)).map fun ts => .list (ts.map Val.atom)
  | .subTextList n conv, x =>
    (mapM' (fun (e : Xml) => C.toPy conv e.text) (named n x.kids)).map fun ts => .list (ts.map Val.atom)
  | .sub name decl _ _ _ dispatch dflt, x =>
    match elemOf name x with
    | none => some (dflt.getD .none)
    | some e => (readClass S dispatch decl e).bind fun c => rd c e
  | .subList n decl _ dispatch, x => (readItems S rd dispatch decl (named n x.kids)).map Val.list
  | .raw sub style _, x =>
    match elemOf sub x with
    | none => some (match style with
        | .any => .none
        | _ => .raw [])
    | some e => some (.raw e.kids)

def writeProps (C : Codec) (S : Schema) (wr : Wr) : List PropE → List Val → Xml → Option Xml
  | [], _, x => some x
  | _ :: _, [], _ => none
  | p :: ps, v :: vs, x => match writeKind C S wr p.kind v x with
    | some x' => writeProps C S wr ps vs x'
    | none => none

def readProps (C : Codec) (S : Schema) (rd : Rd) (ps : List PropE) (x : Xml) : Option (List Val) :=
  mapM' (fun (p : PropE) => readKind C S rd p.kind x) ps

/-- `update_node` of class `c` (depth bound `fuel`) -/
def writeInto (C : Codec) (S : Schema) : Nat → Wr
  | 0 => fun _ _ _ => none
  | f + 1 => fun c fs x =>
    if fs.length = (S.props c).length then writeProps C S (writeInto C S f) (S.props c) fs x else none

/-- `from_node` of class `c` -/
def readCls (C : Codec) (S : Schema) : Nat → Rd
  | 0 => fun _ _ => none
  | f + 1 => fun c x => (readProps C S (readCls C S f) (S.props c) x).map (Val.obj c)

/-- `as_etree_node(tag)` / `mk_node(tag)` -/
def writeCls (C : Codec) (S : Schema) (fuel : Nat) (c : Nat) (fs : List Val) (tag : Nat) : Option Xml :=
  writeInto C S fuel c fs (Xml.empty tag)

/-! ## footprints, well-typed values, the decidable side condition on a class -/

/-- the part of an element a descriptor reads and writes -/
inductive Fp where
  | attr (n : Nat)
  | child (n : Nat)
  | selfText
  | selfKids
  | whole
deriving Repr, DecidableEq

def Kind.fp : Kind → Fp
  | .attr n _ _ _ => .attr n
  | .attrList n _ _ => .attr n
  | .text (some n) _ _ _ _ _ => .child n
  | .text none _ _ _ _ _ => .selfText
  | .textList (some n) _ _ => .child n
  | .textList none _ _ => .selfText
  | .subTextList n _ => .child n
  | .sub (some n) _ _ _ _ _ _ => .child n
  | .sub none _ _ _ _ _ _ => .whole
  | .subList n _ _ _ => .child n
  | .raw (some n) _ _ => .child n
  | .raw none _ _ => .selfKids

/-- two footprints that cannot interfere -/
def Fp.indep : Fp → Fp → Bool
  | .attr a, .attr b => a != b
  | .attr _, .child _ | .child _, .attr _ => true
  | .attr _, .selfText | .selfText, .attr _ => true
  | .attr _, .selfKids | .selfKids, .attr _ => true
  | .child a, .child b => a != b
  | .child _, .selfText | .selfText, .child _ => true
  | .selfText, .selfKids | .selfKids, .selfText => true
  | _, _ => false

def pairwiseIndep : List Fp → Bool
  | [] => true
  | f :: fs => fs.all (fun g => f.indep g && g.indep f) && pairwiseIndep fs

/-- the decidable side condition on a class of the generated table: the XML names of its members are pairwise distinct
    (so they cannot interfere), and no member uses the `xsi:type` attribute or the whole node -/
def ClsE.ok (e : ClsE) : Bool :=
  pairwiseIndep (e.props.map (·.kind.fp)) && e.props.all fun p => (Fp.attr xsiType).indep p.kind.fp

def Schema.okCls (S : Schema) (c : Nat) : Bool :=
  match S.cls c with
  | some e => e.ok
  | none => false

/-- converter round trip for one scalar (the hypothesis per converter; C18 proves it for the scalar converters) -/
def Codec.RT (C : Codec) (conv s : String) : Prop := ∃ l, C.toXml conv s = some l ∧ C.toPy conv l = some s

/-- a list of scalars whose lexical forms survive `' '.join` / `split` -/
def WTatoms (C : Codec) (conv : String) (joined : Bool) (vs : List Val) : Prop :=
  ∃ ss ls, atoms vs = some ss ∧ mapM' (C.toXml conv) ss = some ls ∧ mapM' (C.toPy conv) ls = some ss ∧
    (joined = true → C.split (C.join ls) = ls)

/-- a nested value of class `c` under a member declared with class `decl`: its `xsi:type` (if any) resolves to `c` -/
def WTnested (S : Schema) (container : Bool) (dispatch decl c : Nat) : Prop :=
  ∃ t, xsiFor S container decl c = some t ∧
    match t with
    | none => c = decl
    | some q => dispatch ≠ 0 ∧ S.lookupType dispatch q = some c

/-- value `v` is in the round-trip domain of a member of kind `k`; `P c fs` = "the nested instance is well typed" -/
def WTk (C : Codec) (S : Schema) (P : Nat → List Val → Prop) : Kind → Val → Prop
  | .attr _ conv opt vol, v =>
    (vol = true → v = .atom C.now) ∧ ((v = .none ∧ opt = true ∧ vol = false) ∨ ∃ s, v = .atom s ∧ C.RT conv s)
  | .attrList _ conv _, v => ∃ vs, v = .list vs ∧ WTatoms C conv true vs
  | .text sub conv opt _ style dflt, v =>
    (v = .none ∧ sub.isSome = true ∧ opt = true ∧ ¬ (style = .enumQName ∧ dflt.isSome = true)) ∨
    ∃ s l, v = .atom s ∧ C.toXml conv s = some l ∧ C.toPy conv l = some s ∧ (style = .qname → l ≠ "")
  | .textList _ conv _, v => ∃ vs, v = .list vs ∧ WTatoms C conv true vs
  | .subTextList _ conv, v => ∃ vs, v = .list vs ∧ WTatoms C conv false vs
  | .sub name decl opt container skipEmpty dispatch dflt, v =>
    name.isSome = true ∧
    ((v = .none ∧ (opt = true ∨ skipEmpty = true) ∧ dflt = none) ∨
     (skipEmpty = true ∧ v.isEmptyObj = true ∧ dflt = some v) ∨
     ∃ c fs, v = .obj c fs ∧ ¬ (skipEmpty = true ∧ v.isEmptyObj = true) ∧ P c fs ∧ WTnested S container dispatch decl c)
  | .subList _ decl container dispatch, v =>
    ∃ vs, v = .list vs ∧ ∀ w ∈ vs, ∃ c fs, w = .obj c fs ∧ P c fs ∧ WTnested S container dispatch decl c
  | .raw sub style opt, v =>
    match style with
    | .ext => ∃ xs, v = .raw xs
    | .any => (v = .none ∧ opt = true ∧ sub.isSome = true) ∨ ∃ xs, v = .raw xs
    | .anyList => ∃ xs, v = .raw xs

def WTprops (C : Codec) (S : Schema) (P : Nat → List Val → Prop) : List PropE → List Val → Prop
  | [], [] => True
  | p :: ps, v :: vs => WTk C S P p.kind v ∧ WTprops C S P ps vs
  | _, _ => False

/-- well-typed instance of class `c` of nesting depth `< fuel` -/
def WT (C : Codec) (S : Schema) : Nat → Nat → List Val → Prop
  | 0 => fun _ _ => False
  | f + 1 => fun c fs => S.okCls c = true ∧ WTprops C S (WT C S f) (S.props c) fs

/-! ## what the API user reads (`__get__`) -/

/-- `_XmlStructureBaseProperty.__get__`: the stored value; the implied value of the member only when nothing is stored -/
def publicRead (implied : Option String) : Val → Val
  | .none => match implied with
    | some s => .atom s
    | none => .none
  | v => v

/-- implied values of a table: class ↦ member index ↦ python token -/
abbrev Implied := List (Nat × Nat × String)

def Implied.get (I : Implied) (c k : Nat) : Option String := (I.find? fun e => e.1 == c && e.2.1 == k).map (·.2.2)

mutual
/-- the value of an instance as read through the public attributes, recursively -/
def publicVal (I : Implied) : Val → Val
  | .obj c fs => .obj c (publicFields I c 0 fs)
  | .list vs => .list (publicList I vs)
  | v => v
def publicFields (I : Implied) (c : Nat) : Nat → List Val → List Val
  | _, [] => []
  | k, v :: vs => publicRead (I.get c k) (publicVal I v) :: publicFields I c (k + 1) vs
def publicList (I : Implied) : List Val → List Val
  | [] => []
  | v :: vs => publicVal I v :: publicList I vs
end

theorem publicRead_present (implied : Option String) (v : Val) (h : v ≠ .none) : publicRead implied v = v := by
  cases v with
  | none => exact absurd rfl h
  | _ => rfl

theorem publicRead_absent (implied : String) : publicRead (some implied) .none = .atom implied := rfl

/-! ## the bundled XML schemas as independent reference

`Generated/XsdTable.lean` is produced by a plain walk over `/repo/src/sdc11073/xsd/*.xsd` (`harness/xsdtable.py`): for
every class of the Python table that stands for an XSD complex type / global element (by `NODETYPE`, or as the value
class of a member whose element has an anonymous type) the flattened, ordered child elements and the attributes of
that type. `xsdDeviations` relates the Python declarations to it. Names, type names and lexical forms are interned. -/

structure XsdElem where
  name : Nat
  type : Nat          -- interned complex type of the element (0 = simple type / not a complex type of the schemas)
  min : Nat
  many : Bool         -- maxOccurs > 1
deriving Repr, Inhabited

structure XsdAttr where
  name : Nat
  required : Bool
  dflt : Option Nat   -- interned lexical form of the XSD default
deriving Repr, Inhabited

structure XsdLink where
  typeId : Nat                   -- the XSD type the class stands for (0 = none: the class is not compared)
  elems : List XsdElem
  attrs : List XsdAttr
  anyElem : Bool
  anyAttr : Bool
  implied : List (Nat × Nat)     -- attribute name ↦ interned lexical form of the implied (or default) value of the class
deriving Repr, Inhabited

def findElem (n : Nat) : List XsdElem → Nat → Option (Nat × XsdElem)
  | [], _ => none
  | e :: es, i => if e.name == n then some (i, e) else findElem n es (i + 1)

def findAttr (n : Nat) (l : List XsdAttr) : Option XsdAttr := l.find? (·.name == n)

/-- deviation codes: 1 order, 2 element unknown to the XSD type, 3 value class ≠ XSD element type, 4 list vs single,
    5 attribute unknown to the XSD type, 6 required attribute declared optional, 7 implied value ≠ XSD default -/
def attrDevs (lk : XsdLink) (n : Nat) (opt withDefault : Bool) : List (Nat × Nat) :=
  match findAttr n lk.attrs with
  | none => if lk.anyAttr then [] else [(n, 5)]
  | some a =>
    (if a.required && opt then [(n, 6)] else []) ++
    (match a.dflt with
     | some d => if withDefault && (lk.implied.find? (·.1 == n)).map (·.2) != some d then [(n, 7)] else []
     | none => [])

/-- `(deviations, position of the member in the XSD sequence)` of an element member -/
def elemDevs (L : List XsdLink) (lk : XsdLink) (last : Nat) (n : Nat) (isList single : Bool) (valueCls : Option Nat) :
    List (Nat × Nat) × Nat :=
  match findElem n lk.elems 0 with
  | none => (if lk.anyElem then [] else [(n, 2)], last)
  | some (i, xe) =>
    ((if i < last then [(n, 1)] else []) ++
     (if (isList && !xe.many) || (single && xe.many) then [(n, 4)] else []) ++
     (match valueCls with
      | some c => if xe.type != 0 && (match L[c]? with | some l => l.typeId | none => 0) != xe.type then [(n, 3)] else []
      | none => []),
     max last i)

def propDevs (L : List XsdLink) (lk : XsdLink) : List PropE → Nat → List (Nat × Nat)
  | [], _ => []
  | p :: ps, last =>
    match p.kind with
    | .attr n _ opt _ => attrDevs lk n opt true ++ propDevs L lk ps last
    | .attrList n _ opt => attrDevs lk n opt false ++ propDevs L lk ps last
    | .text (some n) _ _ _ _ _ => let r := elemDevs L lk last n false true none; r.1 ++ propDevs L lk ps r.2
    | .textList (some n) _ _ => let r := elemDevs L lk last n false false none; r.1 ++ propDevs L lk ps r.2
    | .subTextList n _ => let r := elemDevs L lk last n true false none; r.1 ++ propDevs L lk ps r.2
    | .sub (some n) c _ _ _ _ _ => let r := elemDevs L lk last n false true (some c); r.1 ++ propDevs L lk ps r.2
    | .subList n c _ _ => let r := elemDevs L lk last n true false (some c); r.1 ++ propDevs L lk ps r.2
    | .raw (some n) _ _ => let r := elemDevs L lk last n false false none; r.1 ++ propDevs L lk ps r.2
    | _ => propDevs L lk ps last

def clsDevs (L : List XsdLink) : List ClsE → List XsdLink → Nat → List (Nat × Nat × Nat)
  | e :: es, lk :: lks, i =>
    (if lk.typeId == 0 then [] else (propDevs L lk e.props 0).map fun d => (i, d.1, d.2)) ++ clsDevs L es lks (i + 1)
  | _, _, _ => []

/-- all deviations `(class, member name, code)` of the table `S` from the XSD reference `L` -/
def xsdDeviations (S : Schema) (L : List XsdLink) : List (Nat × Nat × Nat) := clsDevs L S.classes L 0

/-- the decidable predicate: the Python table matches the bundled schemas up to the listed exceptions -/
def schemaMatchesXsd (S : Schema) (L : List XsdLink) (exceptions : List (Nat × Nat × Nat)) : Bool :=
  xsdDeviations S L == exceptions

end Sdc.XmlBinding
