import SdcModel.Eventing
import SdcModel.Proofs.Eventing
import SdcModel.Generated.Eventing
/-!
# C08 — WS-Eventing subscriptions deliver exactly while alive and end cleanly
`reach cfg ops = (st, m)` is the manager state `st` after an arbitrary op list `ops`
(Subscribe / Renew / GetStatus / Unsubscribe with arbitrary identifiers, notify, tick, delivery-outcome
changes, house-keeping, stop) together with what a subscriber-side observer `m` knows from the answers
alone. `r.alive cfg now` is the property text: accepted, not unsubscribed, not ended, `now < grantedAt + granted`,
`failures < MAX_NOTIFY_ERRORS`. `cfg.WF` = distinct subscriptions have distinct dispatch identifiers.
-/
namespace Sdc.C08
open Sdc.Eventing

/-- the messages handed to the transport by one op -/
def msgsOf : State × Out → List Msg
  | (_, .sent msgs) => msgs
  | _ => []

/-- manager configuration of a dispatch variant -/
def cfgOf (d : Dispatch) (maxDur maxErr : Nat) (checkDialect : Bool) : Cfg := ⟨d.mkKey, maxDur, maxErr, checkDialect⟩

/-- after any history, the notifications of one report that go to subscriber `i`: exactly one, to its NotifyTo
    address, if the observer's record says alive and the filter matches; none otherwise -/
theorem delivered_exactly (cfg : Cfg) (hw : cfg.WF) (ops : List Op) (ov : List (Nat × Outcome)) (a : Str) (i : Nat) :
    (msgsOf (step cfg (reach cfg ops).1 (.notify a ov))).filter (fun msg => msg.sub == i) =
      match (reach cfg ops).2.recs i with
      | some r => if r.alive cfg (reach cfg ops).2.now ∧ suffixMatch r.filter a = true
                  then [⟨.notification a, i, r.notifyTo, (reach cfg ops).1.outcomeFor ov i r.notifyTo, r.notifyRefs⟩] else []
      | none => [] :=
  notify_filter (sim_reach hw ops) ov a i

/-- a notification for action `a` is handed to subscriber `i` ⇔ accepted ∧ ¬expired ∧ ¬unsubscribed ∧ ¬ended ∧
    failures < MAX ∧ the filter matches `a` (matching as the code does it) -/
theorem delivered_iff (cfg : Cfg) (hw : cfg.WF) (ops : List Op) (ov : List (Nat × Outcome)) (a : Str) (i : Nat) :
    (∃ msg ∈ msgsOf (step cfg (reach cfg ops).1 (.notify a ov)), msg.sub = i) ↔
      ∃ r, (reach cfg ops).2.recs i = some r ∧ r.alive cfg (reach cfg ops).2.now ∧ suffixMatch r.filter a = true := by
  have h := delivered_exactly cfg hw ops ov a i
  constructor
  · rintro ⟨msg, hm, hi⟩
    have hmem : msg ∈ (msgsOf (step cfg (reach cfg ops).1 (.notify a ov))).filter (fun msg => msg.sub == i) :=
      List.mem_filter.mpr ⟨hm, beq_iff_eq.mpr hi⟩
    rw [h] at hmem
    split at hmem
    · next r hr =>
      split at hmem
      · next hc => exact ⟨r, hr, hc⟩
      · cases hmem
    · cases hmem
  · rintro ⟨r, hr, hc⟩
    rw [hr] at h
    have hmem := List.mem_filter.mp ((h.trans (if_pos hc)) ▸ List.mem_singleton_self _)
    exact ⟨_, hmem.1, rfl⟩

/-- the code's matching (`endswith`) contains filter membership … -/
theorem match_of_mem (filter : List Str) (a : Str) (h : a ∈ filter) : suffixMatch filter a = true :=
  List.any_eq_true.mpr ⟨a, h, List.isSuffixOf_iff_suffix.mpr (List.suffix_refl a)⟩

/-- … and no action URI the provider can emit is a proper suffix of another one -/
theorem suffix_is_equality_on_real_actions :
    ∀ a ∈ Generated.Eventing.actions, ∀ f ∈ Generated.Eventing.actions, a.isSuffixOf f = true → a = f := by
  -- every action URI starts with `h` and has no second `h`
  have hh : ∀ a ∈ Generated.Eventing.actions, a.head? = some 104 ∧ 104 ∉ a.tail := by decide +kernel
  intro a ha f hf
  exact eq_of_isSuffixOf_of_head (hh a ha).1 (hh f hf).2

/-- full statement of the filter clause: delivery requires the action to be *in* the filter -/
def filter_membership_full : Prop := ∀ (filter : List Str) (a : Str), suffixMatch filter a = true ↔ a ∈ filter

/-- it is false of the code: the filter entry `xA` matches the action `A` (known finding, replayed at run time) -/
theorem filter_membership_full_fails : ¬ filter_membership_full := by
  intro h
  have := (h [[120, 65]] [65]).mp (by decide)
  exact absurd this (by decide)

/-- for subscribers whose filter consists of real action URIs, matching *is* membership -/
theorem filter_membership_partial (filter : List Str) (a : Str) (ha : a ∈ Generated.Eventing.actions)
    (hf : ∀ f ∈ filter, f ∈ Generated.Eventing.actions) : suffixMatch filter a = true ↔ a ∈ filter := by
  refine ⟨fun h => ?_, match_of_mem filter a⟩
  obtain ⟨f, hfm, hs⟩ := List.any_eq_true.mp h
  exact suffix_is_equality_on_real_actions a ha f (hf f hfm) hs ▸ hfm

/-- Subscribe: the granted expiry never exceeds the provider maximum nor a requested duration > 0 -/
theorem granted_le_partial (cfg : Cfg) (st st' : State) (nt : Nat) (et : Option Nat) (f : Option (List Str)) (d : Bool)
    (e : Option Nat) (nr er : Bool) (i g : Nat) (h : step cfg st (.subscribe nt et f d e nr er) = (st', .subscribed i g)) :
    g ≤ cfg.maxDur ∧ ∀ r, e = some r → 0 < r → g ≤ r :=
  (subscribed_eq (congrArg Prod.snd h)).2 ▸ grant_bounds cfg e

/-- … and what the code does for an absent `Expires` and for `PT0S`: the maximum -/
theorem granted_zero_or_absent (cfg : Cfg) (st st' : State) (nt : Nat) (et : Option Nat) (f : Option (List Str)) (d : Bool)
    (e : Option Nat) (nr er : Bool) (i g : Nat) (h : step cfg st (.subscribe nt et f d e nr er) = (st', .subscribed i g))
    (he : e = none ∨ e = some 0) : g = cfg.maxDur := by
  rw [(subscribed_eq (congrArg Prod.snd h)).2]
  rcases he with rfl | rfl <;> rfl

/-- full statement: the granted expiry never exceeds the requested duration -/
def granted_le_full : Prop :=
  ∀ (cfg : Cfg) (st st' : State) (nt : Nat) (et : Option Nat) (f : Option (List Str)) (d nr er : Bool) (r i g : Nat),
    step cfg st (.subscribe nt et f d (some r) nr er) = (st', .subscribed i g) → g ≤ r

/-- false of the code for `PT0S` (known finding, replayed at run time) -/
theorem granted_le_full_fails : ¬ granted_le_full := by
  intro h
  have := h (cfgOf .path 3000 1 true) init _ 0 none (some []) true true false 0 0 3000 rfl
  exact absurd this (by decide)

/-- Renew: same bounds; the answer is the new grant -/
theorem renew_granted_le (cfg : Cfg) (st st' : State) (k : Key) (e : Option Nat) (g : Nat)
    (h : step cfg st (.renew k e) = (st', .remaining g)) :
    g = grant cfg e ∧ g ≤ cfg.maxDur ∧ (∀ r, e = some r → 0 < r → g ≤ r) := by
  cases hf : st.find cfg k with
  | none => rw [(step_of_find_none hf).1 e] at h; cases h
  | some s =>
    rw [step_renew_some hf] at h
    obtain rfl := Out.remaining.inj (Prod.mk.inj h).2
    exact ⟨rfl, grant_bounds cfg e⟩

/-- GetStatus after any history: an answer names a subscription the observer knows (not unsubscribed, not ended),
    equals `granted − elapsed` of the observer's record (10 ms raster), and changes nothing -/
theorem status_consistent (cfg : Cfg) (hw : cfg.WF) (ops : List Op) (k : Key) (st' : State) (x : Nat)
    (h : step cfg (reach cfg ops).1 (.getStatus k) = (st', .remaining x)) :
    st' = (reach cfg ops).1 ∧ ∃ i r, cfg.mkKey i = k ∧ (reach cfg ops).2.recs i = some r ∧ r.unsub = false ∧
      r.ended = false ∧ x = r.granted - ((reach cfg ops).2.now - r.grantedAt) := by
  have hs := sim_reach hw ops
  cases hf : (reach cfg ops).1.find cfg k with
  | none => rw [(step_of_find_none hf).2.1] at h; cases h
  | some s =>
    rw [step_getStatus_some hf] at h
    obtain ⟨hk, hr, hu⟩ := find_known hs hf
    refine ⟨(Prod.mk.inj h).1.symm, s.id, s.repr, hk, hr, hu, rfl, ?_⟩
    rw [← Out.remaining.inj (Prod.mk.inj h).2, hs.now_eq]
    rfl

/-- a subscription the observer considers alive is answered (never a fault), with exactly `granted − elapsed` -/
theorem status_of_alive (cfg : Cfg) (hw : cfg.WF) (ops : List Op) (i : Nat) (r : Rec)
    (hr : (reach cfg ops).2.recs i = some r) (ha : r.alive cfg (reach cfg ops).2.now) :
    step cfg (reach cfg ops).1 (.getStatus (cfg.mkKey i)) =
      ((reach cfg ops).1, .remaining (r.granted - ((reach cfg ops).2.now - r.grantedAt))) := by
  have hs := sim_reach hw ops
  obtain ⟨s, hf, rfl⟩ := find_of_alive hs hw hr (hs.now_eq ▸ ha)
  rw [step_getStatus_some hf, hs.now_eq]
  rfl

/-- Renew / Unsubscribe of a live subscription are accepted -/
theorem renew_unsubscribe_of_alive (cfg : Cfg) (hw : cfg.WF) (ops : List Op) (i : Nat) (r : Rec)
    (hr : (reach cfg ops).2.recs i = some r) (ha : r.alive cfg (reach cfg ops).2.now) :
    (∀ e, (step cfg (reach cfg ops).1 (.renew (cfg.mkKey i) e)).2 = .remaining (grant cfg e)) ∧
    (step cfg (reach cfg ops).1 (.unsubscribe (cfg.mkKey i))).2 = .unsubscribed := by
  have hs := sim_reach hw ops
  obtain ⟨s, hf, _⟩ := find_of_alive hs hw hr (hs.now_eq ▸ ha)
  exact ⟨fun e => by rw [step_renew_some hf], by rw [step_unsubscribe_some hf]⟩

/-- a request whose identifier names no subscription the observer knows (never issued, unsubscribed, ended —
    also: right uuid in the wrong slot) is answered with a fault and changes nothing -/
theorem unknown_id_fault_noop (cfg : Cfg) (hw : cfg.WF) (ops : List Op) (k : Key)
    (hu : ∀ i, cfg.mkKey i = k → ¬ (reach cfg ops).2.known i) :
    (∀ e, step cfg (reach cfg ops).1 (.renew k e) = ((reach cfg ops).1, .fault)) ∧
    step cfg (reach cfg ops).1 (.getStatus k) = ((reach cfg ops).1, .fault) ∧
    step cfg (reach cfg ops).1 (.unsubscribe k) = ((reach cfg ops).1, .fault) :=
  step_of_find_none (find_none_of_unknown (sim_reach hw ops) k hu)

/-- "no longer known" is permanent: once a subscription was unsubscribed or ended, every later request naming it
    faults, whatever happens in between -/
theorem gone_forever (cfg : Cfg) (hw : cfg.WF) (ops later : List Op) (i : Nat) (hg : (reach cfg ops).2.gone i) :
    step cfg (reach cfg (ops ++ later)).1 (.getStatus (cfg.mkKey i)) = ((reach cfg (ops ++ later)).1, .fault) ∧
    (∀ e, step cfg (reach cfg (ops ++ later)).1 (.renew (cfg.mkKey i) e) = ((reach cfg (ops ++ later)).1, .fault)) ∧
    step cfg (reach cfg (ops ++ later)).1 (.unsubscribe (cfg.mkKey i)) = ((reach cfg (ops ++ later)).1, .fault) := by
  have hg' : (reach cfg (ops ++ later)).2.gone i := by
    rw [reach_append]
    exact (sim_runBoth hw later _ _ (sim_reach hw ops)).2 i hg
  have hu : ∀ j, cfg.mkKey j = cfg.mkKey i → ¬ (reach cfg (ops ++ later)).2.known j := by
    intro j hj; rw [hw j i hj]; exact gone_not_known hg'
  have := unknown_id_fault_noop cfg hw (ops ++ later) (cfg.mkKey i) hu
  exact ⟨this.2.1, this.1, this.2.2⟩

/-- a confirmed Unsubscribe makes the subscription gone -/
theorem unsubscribed_is_gone (cfg : Cfg) (hw : cfg.WF) (ops : List Op) (i : Nat)
    (h : (step cfg (reach cfg ops).1 (.unsubscribe (cfg.mkKey i))).2 = .unsubscribed) :
    (reach cfg (ops ++ [.unsubscribe (cfg.mkKey i)])).2.gone i := by
  have hs := sim_reach hw ops
  rw [reach_snoc]
  cases hf : (reach cfg ops).1.find cfg (cfg.mkKey i) with
  | none => rw [(step_of_find_none hf).2.2] at h; cases h
  | some s =>
    obtain ⟨hk, hr, _⟩ := find_known hs hf
    obtain rfl := hw _ _ hk
    rw [step_unsubscribe_some hf]
    exact gone_iff.mpr ⟨_, (if_pos rfl).trans (congrArg (Option.map _) hr), Or.inl rfl⟩

/-- stop with end messages: every subscription the observer considers alive gets exactly one SubscriptionEnd,
    addressed to EndTo if it gave one, else to NotifyTo; all others get none -/
theorem stop_ends_once (cfg : Cfg) (hw : cfg.WF) (ops : List Op) (ov : List (Nat × Outcome)) (i : Nat) :
    (msgsOf (step cfg (reach cfg ops).1 (.stop true ov))).filter (fun msg => msg.sub == i) =
      match (reach cfg ops).2.recs i with
      | some r => if r.alive cfg (reach cfg ops).2.now
                  then [⟨.subscriptionEnd, i, r.endTo.getD r.notifyTo, (reach cfg ops).1.outcomeFor ov i (r.endTo.getD r.notifyTo), r.endRefs⟩]
                  else []
      | none => [] :=
  stop_filter (sim_reach hw ops) ov i

/-- the addressing clause at full strength: the SubscriptionEnd echoes the reference parameters of the endpoint it is
    addressed to — those of EndTo if an EndTo endpoint was given (none if that has none), otherwise those of NotifyTo
    (fix 8d3bd96 of the repository: an EndTo endpoint without reference parameters is not sent the NotifyTo ones) -/
theorem end_refs_full (r : Rec) : r.endRefs = r.endRefsSpec := by
  unfold Rec.endRefs Rec.endRefsSpec
  cases r.endTo <;> rfl

/-- end messages switched off: nothing is sent -/
theorem stop_off_sends_nothing (cfg : Cfg) (st : State) (ov : List (Nat × Outcome)) : msgsOf (step cfg st (.stop false ov)) = [] := rfl

/-- after stop every subscription accepted before is gone (ended): by `gone_forever` / `delivered_iff` it gets
    neither answers nor notifications any more -/
theorem stop_ends_all (cfg : Cfg) (ops : List Op) (b : Bool) (ov : List (Nat × Outcome)) (i : Nat) (r : Rec)
    (hr : (reach cfg ops).2.recs i = some r) : (reach cfg (ops ++ [.stop b ov])).2.gone i := by
  rw [reach_snoc]
  exact gone_iff.mpr ⟨_, congrArg (Option.map _) hr, Or.inr rfl⟩

/-- path- and reference-parameter dispatching are instances of the generic key: all theorems above apply -/
theorem dispatch_variants_wf (d : Dispatch) (maxDur maxErr : Nat) (cd : Bool) : (cfgOf d maxDur maxErr cd).WF :=
  Dispatch.mkKey_injective d

/-- the constants of the running code admit live subscriptions at all -/
theorem generated_constants_sane : 0 < Generated.Eventing.maxNotifyErrors ∧ 0 < Generated.Eventing.defaultMaxDur := by
  decide

/-! ## non-vacuity: a concrete history with a live, an unsubscribed, an expired and a failed subscription -/

def cfg0 : Cfg := cfgOf .ref 3000 1 true
def opsA : List Op :=
  [.subscribe 0 (some 1) (some [[65], [66]]) true (some 500) true true,   -- 0: stays alive, EndTo = 1
   .subscribe 2 none (some [[65]]) true (some 100) true false,              -- 1: expires at 100
   .subscribe 3 none (some [[120, 65]]) true none true false,               -- 2: will be unsubscribed (suffix filter `xA`)
   .subscribe 4 none (some [[65]]) true (some 0) false false,                -- 3: delivery will fail; PT0S -> maximum
   .setOutcome 4 .refused, .notify [65] [], .unsubscribe (some 2, none), .tick 100, .housekeeping]

example : (step cfg0 (reach cfg0 opsA).1 (.notify [65] [(0, .parseError)])).2 = .sent [⟨.notification [65], 0, 0, .parseError, .notify⟩] := by decide +kernel
example : ∃ r, (reach cfg0 opsA).2.recs 0 = some r ∧ r.alive cfg0 (reach cfg0 opsA).2.now := by decide +kernel
example : ∃ r, (reach cfg0 opsA).2.recs 1 = some r ∧ ¬ r.alive cfg0 (reach cfg0 opsA).2.now := by decide +kernel
example : (reach cfg0 opsA).2.gone 2 := by decide +kernel
example : (step cfg0 (reach cfg0 opsA).1 (.getStatus (some 0, none))).2 = .remaining 400 := by decide +kernel
example : (step cfg0 (reach cfg0 opsA).1 (.getStatus (some 2, none))).2 = .fault := by decide +kernel
example : (step cfg0 (reach cfg0 opsA).1 (.getStatus (none, some 0))).2 = .fault := by decide +kernel
example : (step cfg0 (reach cfg0 opsA).1 (.stop true [])).2 = .sent [⟨.subscriptionEnd, 0, 1, .ok, .endTo⟩] := by decide +kernel
example : (step cfg0 init (.subscribe 4 none (some [[65]]) true (some 0) true false)).2 = .subscribed 0 3000 := by decide +kernel

end Sdc.C08
