import SdcModel.Consumer
import SdcModel.Proofs.Consumer
import SdcModel.Proofs.ConsumerMirror
import SdcModel.Generated.ConsumerLocks
/-!
# C01 — the consumer MDIB is an exact mirror of the provider MDIB after any report history

Property theorems only.  Consumer model: `SdcModel/Consumer.lean`; helper lemmas: `SdcModel/Proofs/ConsumerMirror.lean`.

The provider side enters through the decidable predicate `reportsDescribe p p' rs` ("the reports `rs` of one
transaction describe the change `p → p'` of the provider content exactly": sound, complete, newer versions, DELETE
parts children first, …, see `SdcModel/Consumer.lean`).  C04 proves it for the provider model; the harness evaluates
it on every transaction of the real provider.
-/
namespace Sdc.C01
open Sdc.Mdib Sdc.Consumer

/-- a provider history: the content after each committed transaction together with the reports sent for it -/
abbrev History := List (Core × List Report)

/-- every transaction's reports describe its change, starting from the content `p` -/
def Describes : Core → History → Prop
  | _, [] => True
  | p, (p', rs) :: rest => ReportsDescribe p p' rs ∧ Describes p' rest

/-- all reports of the history, in emission order -/
def History.reports (h : History) : List Report := h.flatMap (·.2)

def History.final (p : Core) : History → Core
  | [] => p
  | (p', _) :: rest => History.final p' rest

/-- **simulation step**: a consumer that mirrors the provider before a transaction and processes the reports of
    that transaction in emission order mirrors the provider after the transaction (every kind of transaction:
    state / context / waveform reports and description modification reports with CREATE, UPDATE, DELETE parts) -/
theorem mirror_step (p p' c : Core) (rs : List Report) (hD : ReportsDescribe p p' rs) (hw : c.tabs.Wf)
    (hM : Mirror c p) : Mirror (applyAll c rs).1 p' ∧ (applyAll c rs).1.tabs.Wf :=
  ⟨mirror_of_facts (txFacts_of_describe hD) hw hM, applyAll_wf rs hw⟩

theorem applyAll_append (c : Core) (a b : List Report) : (applyAll c (a ++ b)).1 = (applyAll (applyAll c a).1 b).1 := by
  induction a generalizing c with
  | nil => rfl
  | cons r a ih => exact ih _

/-- **mirror** (handler level): after every history of transactions whose reports are processed in emission order
    with nothing lost, the consumer content equals the provider content — same descriptors under the same parents,
    same states and context states with the same versions, same MdibVersion / SequenceId / InstanceId.
    The statement holds for every history, hence after every prefix. -/
theorem mirror_core : ∀ (hist : History) (p c : Core), Describes p hist → c.tabs.Wf → Mirror c p →
    Mirror (applyAll c hist.reports).1 (History.final p hist) ∧ (applyAll c hist.reports).1.tabs.Wf
  | [], _, _, _, hw, hM => ⟨hM, hw⟩
  | (p', rs) :: rest, p, c, hD, hw, hM => by
    obtain ⟨h1, h2⟩ := mirror_step p p' c rs hD.1 hw hM
    show Mirror (applyAll c (rs ++ History.reports rest)).1 _ ∧ (applyAll c (rs ++ History.reports rest)).1.tabs.Wf
    rw [applyAll_append]
    exact mirror_core rest p' (applyAll c rs).1 hD.2 h2 h1

/-- along a described history the SequenceId / InstanceId stay the same and every report is newer than the start -/
theorem describes_ids : ∀ (hist : History) (p : Core), Describes p hist →
    (∀ r ∈ hist.reports, r.vg.seq = p.vg.seq ∧ r.vg.inst = p.vg.inst ∧ p.vg.ver < r.vg.ver) ∧
    (History.final p hist).vg.seq = p.vg.seq ∧ (History.final p hist).vg.inst = p.vg.inst ∧
    p.vg.ver ≤ (History.final p hist).vg.ver
  | [], _, _ => ⟨(fun r hr => nomatch hr), rfl, rfl, Nat.le_refl _⟩
  | (p', rs) :: rest, p, hD => by
    have T := txFacts_of_describe hD.1
    obtain ⟨h1, h2, h3, h4⟩ := describes_ids rest p' hD.2
    refine ⟨fun r hr => ?_, h2.trans T.seq.symm, h3.trans T.inst.symm, Nat.le_trans T.ver h4⟩
    rcases List.mem_append.mp (show r ∈ rs ++ History.reports rest from hr) with h | h
    · rw [T.vg r h]; exact ⟨T.seq.symm, T.inst.symm, T.verlt⟩
    · obtain ⟨a, b, c⟩ := h1 r h
      exact ⟨a.trans T.seq.symm, b.trans T.inst.symm, Nat.lt_trans T.verlt c⟩

/-- `run` over reports that all carry the ids of the consumer = the handlers one after the other -/
theorem run_reports_same_ids : ∀ (rs : List Report) (s : St), s.mode = .initialized →
    (∀ r ∈ rs, r.vg.seq = s.core.vg.seq ∧ r.vg.inst = s.core.vg.inst) →
    run s (rs.map .report) = { s with core := (applyAll s.core rs).1 }
  | [], _, _, _ => rfl
  | r :: rs, s, hm, hids => by
    have hr := hids r (List.mem_cons_self ..)
    rw [List.map_cons, run_cons, step_report_ok r hm ((idsDiffer_eq_false_iff ..).2 hr)]
    -- the handler takes over the version group of the report or keeps its own: the ids stay
    have hvg : (applyReport s.core r).1.vg.seq = s.core.vg.seq ∧ (applyReport s.core r).1.vg.inst = s.core.vg.inst := by
      rw [applyReport_vg]; split
      · exact hr
      · exact ⟨rfl, rfl⟩
    exact run_reports_same_ids rs { s with core := (applyReport s.core r).1 } hm fun q hq =>
      ⟨(hids q (List.mem_cons_of_mem _ hq)).1.trans hvg.1.symm, (hids q (List.mem_cons_of_mem _ hq)).2.trans hvg.2.symm⟩

/-- **mirror** (event level): an initialised consumer that mirrors the provider stays initialised and mirrors the
    provider after any described history delivered in order -/
theorem mirror (hist : History) (p : Core) (s : St) (hD : Describes p hist) (hm : s.mode = .initialized)
    (hw : s.core.tabs.Wf) (hM : Mirror s.core p) :
    (run s (hist.reports.map .report)).mode = .initialized ∧
    Mirror (run s (hist.reports.map .report)).core (History.final p hist) := by
  rw [run_reports_same_ids hist.reports s hm fun r hr => by
    obtain ⟨a, b, _⟩ := (describes_ids hist p hD).1 r hr; rw [hM.vg]; exact ⟨a, b⟩]
  exact ⟨hm, (mirror_core hist p s.core hD hw hM).1⟩

/-- **initial load / reload** (C06: "after a reload the consumer is again an exact mirror"): GetMdib answered with
    the provider content `p`, every report of the described history that follows `p` arrived while the request was
    in flight — together with arbitrary reports `old` that are not newer than `p` — and nothing else: after the
    load the consumer mirrors the end of the history; nothing is lost, nothing applied twice -/
theorem mirror_after_reload (hist : History) (p : Core) (s : St) (old : List Report) (hD : Describes p hist)
    (hm : s.mode = .initializing) (hb : s.buf = old ++ hist.reports)
    (hold : ∀ r ∈ old, r.vg.ver ≤ p.vg.ver ∨ r.vg.seq ≠ p.vg.seq)
    (hw : (⟨p.vg, p.tabs.descrs, p.tabs.states, p.tabs.cstates⟩ : Snapshot).wf [] = true)
    (hc : p.tabs.cstates ≠ []) :
    Mirror (step s (.reloadEnd ⟨p.vg, p.tabs.descrs, p.tabs.states, p.tabs.cstates⟩ [])).1.core (History.final p hist) := by
  -- the loaded content is `p` itself (without context states the empty GetContextStates answer is taken: the same)
  have hload : loadSnapshot ⟨p.vg, p.tabs.descrs, p.tabs.states, p.tabs.cstates⟩ [] = p := by
    obtain ⟨vg, ⟨d, st, cs⟩⟩ := p
    cases cs <;> rfl
  -- of the buffer exactly the reports of the history are replayed
  have hfil : (old ++ hist.reports).filter (replayable p.vg.ver p.vg.seq) = hist.reports := by
    rw [List.filter_append, List.filter_eq_nil_iff.mpr, List.filter_eq_self.mpr, List.nil_append]
    · intro r hr
      obtain ⟨a, _, c⟩ := (describes_ids hist p hD).1 r hr
      exact (replayable_iff ..).2 ⟨a, c⟩
    · intro r hr h
      obtain ⟨h1, h2⟩ := (replayable_iff ..).1 h
      exact (hold r hr).elim (fun h => Nat.not_le.mpr h2 h) (fun h => h h1)
  have hwf := loadSnapshot_wf hw
  rw [step_reloadEnd _ _ hm hw, replay_eq_applyAll, hb, hload]
  rw [hload] at hwf
  show Mirror (applyAll p ((old ++ hist.reports).filter (replayable p.vg.ver p.vg.seq))).1 _
  rw [hfil]
  exact (mirror_core hist p p hD hwf ⟨rfl, fun _ => rfl, fun _ => rfl, fun _ => rfl⟩).1

/-- `mirror_after_reload` treats the end of `reload_all` (replay of the buffer, clearing, switch to `initialized`) as
    one atomic step: justified by the traced program, in which the state switch happens inside the buffer-lock section
    (otherwise a report arriving in between is appended to a buffer nobody replays and is lost) -/
theorem reload_is_atomic_for_notifications :
    switchInsideLock false Generated.reloadAllTrace = true ∧
    Generated.reloadAllTrace.contains (.writeState .initialized) = true ∧
    recheckBeforeAppend false false Generated.preCheckTrace = true := by decide

/-- **notifs_exact**, state reports: the `*_by_handle` notification of a metric / alert / component / operational /
    waveform report names exactly the states that the report changed (any report, any consumer state) -/
theorem notifs_exact_states (c : Core) (r : Report) (hk : r.kind ≠ .description) (hc : r.kind ≠ .context)
    (hv : c.vg.ver ≤ r.vg.ver) (k : Handle) :
    k ∈ (applyReport c r).2.handles ↔
      lookupBy (·.dh) (applyReport c r).1.tabs.states k ≠ lookupBy (·.dh) c.tabs.states k := by
  rw [applyReport_states hv hk hc]
  exact gatedPutAll_named_iff_changed _ _ true _ _ k

/-- **notifs_exact**, context reports: `context_by_handle` names exactly the context states (by their Handle) that
    the report changed -/
theorem notifs_exact_context (c : Core) (r : Report) (hc : r.kind = .context) (hv : c.vg.ver ≤ r.vg.ver) (k : Handle) :
    k ∈ (applyReport c r).2.handles ↔
      lookupBy (·.h) (applyReport c r).1.tabs.cstates k ≠ lookupBy (·.h) c.tabs.cstates k := by
  rw [applyReport_context hv hc]
  exact gatedPutAll_named_iff_changed _ _ true _ _ k

/-- **notifs_exact**, description modification reports: `new_/updated_descriptors_by_handle` name exactly the
    descriptors of the CREATE / UPDATE parts, `deleted_descriptors_by_handle` names the descriptors of the DELETE
    parts (and the descriptors removed with them) -/
theorem notifs_exact_description (c : Core) (r : Report) (hk : r.kind = .description) (hv : c.vg.ver ≤ r.vg.ver) :
    (applyReport c r).2.created = partHandles .create r.parts ∧
    (applyReport c r).2.updated = partHandles .update r.parts ∧
    (∀ h ∈ partHandles .delete r.parts, h ∈ (applyReport c r).2.deleted) := by
  rw [applyReport_description hv hk]
  refine ⟨rfl, rfl, fun h hh => ?_⟩
  show h ∈ deletedNotif c.tabs r.parts
  generalize c.tabs = t
  unfold partHandles at hh
  generalize r.parts = parts at hh ⊢
  induction parts generalizing t with
  | nil => cases hh
  | cons q ps ih =>
    unfold deletedNotif
    rw [List.filter_cons] at hh
    split at hh
    · rename_i hq
      rw [beq_iff_eq] at hq
      rcases List.mem_cons.mp hh with rfl | hh
      · rw [hq]; exact List.mem_append_left _ (List.mem_append_right _ (List.mem_singleton_self _))
      · exact List.mem_append_right _ (ih _ hh)
    · exact List.mem_append_right _ (ih _ hh)

/-! ### what cannot be mirrored: a change for which the provider sends no report
(a context state deleted through `ContextStateTransaction.write_entity`: the MdibVersion is incremented, the state is
removed, no report is sent) -/

def witnessBefore : Core :=
  ⟨⟨3, 1, some 1⟩, ⟨[⟨1, none, .context, 0, 10, none⟩], [], [⟨7, 1, 0, 1, 30, .assoc, some 2, none, none, none⟩,
    ⟨8, 1, 0, 0, 31, .no, none, none, none, none⟩]⟩⟩
def witnessAfter : Core :=
  ⟨⟨4, 1, some 1⟩, ⟨[⟨1, none, .context, 0, 10, none⟩], [], [⟨8, 1, 0, 0, 31, .no, none, none, none, none⟩]⟩⟩

/-- the (empty) report list of such a transaction is rejected by the predicate that `mirror` assumes … -/
theorem unreported_change_excluded : reportsDescribe witnessBefore witnessAfter [] = false := by decide

/-- … and indeed a consumer that mirrored the provider before is no mirror afterwards -/
theorem unreported_change_not_mirrored (c : Core) (hM : Mirror c witnessBefore) :
    ¬ Mirror (applyAll c []).1 witnessAfter := by
  intro h
  have h1 := h.vg
  have h2 := hM.vg
  have : (applyAll c []).1 = c := rfl
  rw [this, h2] at h1
  exact absurd h1 (by decide)

/-! ### non-vacuity: a concrete described history with all kinds of parts -/

def ex0 : Core :=
  ⟨⟨3, 1, some 1⟩,
   ⟨[⟨1, none, .component, 0, 10, none⟩, ⟨2, some 1, .metric, 0, 11, none⟩, ⟨3, some 1, .context, 0, 12, none⟩,
     ⟨5, some 1, .component, 0, 15, none⟩, ⟨6, some 5, .metric, 0, 16, none⟩],
    [⟨1, 0, 0, .component, 20⟩, ⟨2, 0, 4, .metric, 21⟩, ⟨5, 0, 0, .component, 27⟩, ⟨6, 0, 1, .metric, 28⟩],
    [⟨7, 3, 0, 1, 30, .assoc, some 2, none, none, none⟩]⟩⟩
/-- metric report -/
def ex1 : Core :=
  { ex0 with vg := ⟨4, 1, some 1⟩, tabs := { ex0.tabs with states :=
    [⟨1, 0, 0, .component, 20⟩, ⟨2, 0, 5, .metric, 22⟩, ⟨5, 0, 0, .component, 27⟩, ⟨6, 0, 1, .metric, 28⟩] } }
def rs1 : List Report := [{ kind := .metric, vg := ⟨4, 1, some 1⟩, states := [⟨2, 0, 5, .metric, 22⟩] }]
/-- descriptor transaction: update metric 2 (+ its state), create metric 4 below 1 (parent 1 bumped), delete the
    subtree 5 (child 6 first) -/
def ex2 : Core :=
  ⟨⟨5, 1, some 1⟩,
   ⟨[⟨1, none, .component, 1, 10, none⟩, ⟨2, some 1, .metric, 1, 14, none⟩, ⟨3, some 1, .context, 0, 12, none⟩,
     ⟨4, some 1, .metric, 0, 13, none⟩],
    [⟨1, 1, 1, .component, 20⟩, ⟨2, 1, 6, .metric, 22⟩, ⟨4, 0, 0, .metric, 24⟩],
    [⟨7, 3, 0, 1, 30, .assoc, some 2, none, none, none⟩]⟩⟩
def rs2 : List Report :=
  [{ kind := .description, vg := ⟨5, 1, some 1⟩,
     parts := [⟨.update, ⟨2, some 1, .metric, 1, 14, none⟩, [⟨2, 1, 6, .metric, 22⟩], []⟩,
               ⟨.update, ⟨1, none, .component, 1, 10, none⟩, [⟨1, 1, 1, .component, 20⟩], []⟩,
               ⟨.create, ⟨4, some 1, .metric, 0, 13, none⟩, [⟨4, 0, 0, .metric, 24⟩], []⟩,
               ⟨.delete, ⟨6, some 5, .metric, 0, 16, none⟩, [], []⟩,
               ⟨.delete, ⟨5, some 1, .component, 0, 15, none⟩, [], []⟩] },
   { kind := .metric, vg := ⟨5, 1, some 1⟩, states := [⟨2, 1, 6, .metric, 22⟩, ⟨4, 0, 0, .metric, 24⟩] },
   { kind := .component, vg := ⟨5, 1, some 1⟩, states := [⟨1, 1, 1, .component, 20⟩] }]
/-- the context entity 3 written through a descriptor transaction without its (last) context state: an UPDATE part
    that lists no state; the consumer has to drop context state 7 -/
def ex3 : Core :=
  ⟨⟨6, 1, some 1⟩,
   ⟨[⟨1, none, .component, 1, 10, none⟩, ⟨2, some 1, .metric, 1, 14, none⟩, ⟨3, some 1, .context, 1, 12, none⟩,
     ⟨4, some 1, .metric, 0, 13, none⟩],
    [⟨1, 1, 1, .component, 20⟩, ⟨2, 1, 6, .metric, 22⟩, ⟨4, 0, 0, .metric, 24⟩], []⟩⟩
def rs3 : List Report :=
  [{ kind := .description, vg := ⟨6, 1, some 1⟩, parts := [⟨.update, ⟨3, some 1, .context, 1, 12, none⟩, [], []⟩] }]
def exHist : History := [(ex1, rs1), (ex2, rs2), (ex3, rs3)]

example : Describes ex0 exHist := by
  refine ⟨by decide +kernel, by decide +kernel, by decide +kernel, trivial⟩

example : (applyAll ex0 exHist.reports).1 = ex3 := by decide +kernel

end Sdc.C01
