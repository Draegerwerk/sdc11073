import SdcModel.Properties.C07
import SdcModel.Generated.PeriodicProg
import SdcModel.Proofs.PeriodicStore
import SdcModel.Generated.PeriodicStoreProg
/-!
# C04 (periodic reports): the copies collected for a periodic report are a snapshot of the version they are labelled with
The collector of `PeriodicReportsHandler._periodic_reports_send_loop` is a reader in the interleaving semantics of
`SdcModel/LockLts.lean` (the model of C07): it reads the label (`mdib_version`) and copies the states. Its program is
traced from one real iteration (`Generated/PeriodicProg.lean`, regenerated on every run).
-/
namespace Sdc.C04
open Sdc.LockLts

/-- the traced collector reads label and states inside one critical section of `mdib_lock`, writes nothing and mutates nothing -/
theorem generated_periodic_collector_wellLocked :
    WellLocked Generated.prog_periodicCollector ∧ ReadOnly Generated.prog_periodicCollector
      ∧ NoMutate Generated.prog_periodicCollector ∧ Generated.prog_periodicCollector ≠ [] := by
  decide

/-- For any number of concurrently committing writer threads with well-locked programs and ANY interleaving, a completed
    run of the (traced) collector has observed exactly one published (MdibVersion, description, states) triple: the state
    copies it retains show the values of the version they are labelled with. -/
theorem periodic_copies_are_snapshot (c0 c : Cfg) (h0 : Init c0)
    (hw : ∀ j, WellLocked (c0.thr j).prog ∧ NoMutate (c0.thr j).prog) (hr : Reach c0 c)
    (i : Nat) (hi : (c.thr i).prog = Generated.prog_periodicCollector) (hd : (c.thr i).todo = []) :
    ∃ p ∈ c.hist, Consistent (c.thr i) p :=
  Sdc.C07.wellLocked_snapshot c0 c h0 hw hr i (by rw [hi]; exact generated_periodic_collector_wellLocked.2.1) hd

/-- the discipline matters: a collector that reads the label before taking the lock, or a state after releasing it, is rejected -/
example : ¬ WellLocked [.rdV, .acq 0, .rdC, .rel 0] := by decide
example : ¬ WellLocked [.acq 0, .rdV, .rdC, .rel 0, .rdC] := by decide

/-! ## the store of the fixed-interval periodic reports (`SdcModel/PeriodicStore.lean`) -/
open Sdc.PeriodicStore in
/-- what one period of the real loop does to each of the five store lists (traced on every run) is the program the theorems
    below speak of: copy and empty inside ONE critical section of the store lock, send after it -/
theorem generated_store_programs_good :
    Generated.periodicStoreProgs.map (·.1) = ["metric", "alert", "component", "context", "operational"]
      ∧ ∀ p ∈ Generated.periodicStoreProgs, p.2 = good :=
  ⟨rfl, by decide⟩

open Sdc.PeriodicStore in
/-- For ANY interleaving of commits (`put`) with the blocks of the collector, at every moment: what has been sent in periodic
    reports, followed by what the collector holds, followed by what is still stored, is exactly what the commits stored, in
    their order – nothing lost, nothing twice, nothing invented, whenever the writers run relative to the collector. -/
theorem periodic_store_conserves (evs : List Ev) :
    (run good {} evs).out ++ (run good {} evs).tmp ++ (run good {} evs).store = puts evs :=
  (run_inv evs {} [] inv_init).1

open Sdc.PeriodicStore in
/-- … and after three more blocks of the collector (at most one and a half periods) without a commit in between, every state that
    any commit stored has been sent in a periodic report exactly once, in commit order -/
theorem periodic_store_flushes (evs : List Ev) : (run good {} (evs ++ [.col, .col, .col])).out = puts evs := by
  rw [run_append]
  exact flush _ _ (run_inv evs {} [] inv_init)

/-- the discipline matters: emptying the store only after the send loses what a commit stored in between (here: 2) -/
example : (Sdc.PeriodicStore.run [[.take], [.send], [.clear]] {}
    [.put 1, .col, .put 2, .col, .col, .col, .col, .col, .col, .col, .col]).out = [1] := rfl
/-- … and copying outside the critical section that empties it does as well -/
example : (Sdc.PeriodicStore.run [[.take], [.clear], [.send]] {}
    [.put 1, .col, .put 2, .col, .col, .col, .col, .col]).out = [1] := rfl
/-- the hypothesis is met by a non-trivial run -/
example : (Sdc.PeriodicStore.run Sdc.PeriodicStore.good {} [.put 1, .col, .put 2, .col, .put 3, .col, .col, .col]).out = [1, 2, 3] := rfl

end Sdc.C04
