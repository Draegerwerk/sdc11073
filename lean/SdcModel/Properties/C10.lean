import SdcModel.ContextAssoc
import SdcModel.Proofs.ContextAssoc
import SdcModel.Generated.ContextLocks
/-!
# C10 — context association invariants hold after any sequence of context changes
Property theorems only. Model: `SdcModel/ContextAssoc.lean` (`set_location` and the SetContextState handler of the example
role providers, as repaired by the `fix:` commits listed in `known_findings/C10.json`); helper lemmas:
`SdcModel/Proofs/ContextAssoc.lean`.  `run env st ops` folds `step` over an arbitrary list of
`setLocation` / `setContextState` operations; `WF env st` is the well-formedness of the start table (unique handles
below the uuid supply and different from descriptor handles, at most one associated state per descriptor, an
associated state has no unbinding version).

The version an operation writes into Binding/UnbindingMdibVersion is `st.ver + 1` of the state it commits on: the model
reads the version and the table and commits in one `step`.  On the real code this atomicity is what `context_state_transaction()`
(`_transaction_manager`: `with self._tr_lock, self.mdib_lock`, `new_mdib_version` computed when the transaction object is
created inside it) provides.  It is tied to the source in two ways: `version_reads_inside_transaction` below (generated
from a dynamic trace on every run) and the schedule scenario of the harness (another transaction is open when the
operation starts and commits first, `Op.otherCommit` in the model), whose oracle compares the versions in the states
with the MdibVersion of the operation's own EpisodicContextReport.
-/
namespace Sdc.C10
open Sdc.Mdib Sdc.ContextAssoc

/-- every context descriptor has at most one associated state, after any operation sequence -/
theorem assoc_unique {env : Env} {st : St} (hwf : WF env st) (ops : List Op) (d : Handle) :
    ((run env st ops).tab.filter (fun s => s.dh == d && s.assoc == .assoc)).length ≤ 1 := by
  have wf := wf_run hwf ops
  apply filter_length_le_one wf.nodup
  intro a ha b hb hpa hpb
  simp only [Bool.and_eq_true, beq_iff_eq] at hpa hpb
  exact wf.uniq a ha b hb (hpa.1.trans hpb.1.symm) hpa.2 hpb.2

/-- context state handles stay unique in the whole MDIB: no two states share a handle, none is a descriptor handle -/
theorem ctx_handles_unique {env : Env} {st : St} (hwf : WF env st) (ops : List Op) :
    ((run env st ops).tab.map (·.h)).Nodup ∧ ∀ s ∈ (run env st ops).tab, s.h ∉ env.handles :=
  ⟨(wf_run hwf ops).nodup, (wf_run hwf ops).not_descr⟩

/-- a state that was associated before an operation still exists after it, and if it is no longer associated it is
`Dis`, its unbinding version is the MdibVersion of that commit (the old version + 1) and its end time is the time of
that operation (the clock value the operation read; in particular it is set – whatever binding attributes the state
carried before, e.g. a client-supplied BindingEndTime of a state that was proposed as `Pre` and associated later).
(`ops` may contain `otherCommit`s; "old version" is the version at the moment the operation owns the transaction lock,
see the header and `version_reads_inside_transaction`.) -/
theorem unbind_marked {env : Env} {st : St} (hwf : WF env st) (ops : List Op) (op : Op) (a : CState)
    (ha : a ∈ (run env st ops).tab) (haa : a.assoc = .assoc) :
    ∃ b ∈ (step env (run env st ops) op).1.tab, b.h = a.h ∧
      (b.assoc ≠ .assoc →
        (step env (run env st ops) op).1.ver = (run env st ops).ver + 1 ∧
        b.assoc = .dis ∧ b.unbindV = some (step env (run env st ops) op).1.ver ∧
        b.unbindT = some (run env st ops).clock) := by
  have wf := wf_run hwf ops
  have ok := step_ok wf op
  obtain ⟨b, hb, hab⟩ := ok.post.keep a ha
  refine ⟨b, hb, hab, fun hba => ?_⟩
  have hm := ok.post.unb a ha haa b hb hab hba
  rcases ok.ver with ⟨ht, _⟩ | hv
  · rw [ht] at hb
    have := eq_of_h_eq wf.nodup hb ha hab
    exact absurd (this ▸ haa) hba
  · exact ⟨hv, hm⟩

/-- a state that is associated after an operation and was not before (or did not exist) has the MdibVersion of that
commit (the old version + 1) as binding version and the time of that operation as start time -/
theorem bind_marked {env : Env} {st : St} (hwf : WF env st) (ops : List Op) (op : Op) (b : CState)
    (hb : b ∈ (step env (run env st ops) op).1.tab) (hba : b.assoc = .assoc)
    (hnew : ∀ a ∈ (run env st ops).tab, a.h = b.h → a.assoc ≠ .assoc) :
    (step env (run env st ops) op).1.ver = (run env st ops).ver + 1 ∧
    b.bindV = some (step env (run env st ops) op).1.ver ∧ b.bindT = some (run env st ops).clock := by
  have wf := wf_run hwf ops
  have ok := step_ok wf op
  have hm := ok.post.bnd b hb hba hnew
  rcases ok.ver with ⟨ht, _⟩ | hv
  · rw [ht] at hb
    exact absurd hba (hnew b hb rfl)
  · exact ⟨hv, hm⟩

/-- every read of `mdib.mdib_version` made by the thread of a context operation (SetContextState handler, set_location;
traced scenarios regenerated on every run into `Generated/ContextLocks.lean`) happens while that thread holds the
transaction lock: the hypothesis "version read and commit are one atomic step" of the model -/
theorem version_reads_inside_transaction :
    ∀ r ∈ Generated.ContextLocks.versionReads, r.2.2 = 0 := by decide

/-- the SetContextState handler fetches its working copies of the context states (`mdib.entities.by_handle`) only while
it holds the transaction lock: what it reads is the table it commits on (the model reads `st.tab` in the same `step`).
The forced two-writer schedule of the harness is the behavioural tie for the same fact. -/
theorem entity_reads_inside_transaction :
    ∀ r ∈ Generated.ContextLocks.entityReads, r.2.2 = 0 := by decide

/-- the MdibVersion moves by at most one per operation, and not at all when the table is unchanged -/
theorem version_step {env : Env} {st : St} (hwf : WF env st) (ops : List Op) (op : Op) :
    ((step env (run env st ops) op).1.tab = (run env st ops).tab ∧
      (step env (run env st ops) op).1.ver = (run env st ops).ver) ∨
    (step env (run env st ops) op).1.ver = (run env st ops).ver + 1 :=
  (step_ok (wf_run hwf ops) op).ver

/-- a rejected SetContextState changes nothing but the clock (from every state, well-formed or not) -/
theorem rejected_proposal_noop (env : Env) (st : St) (ps : List CState) (e : Err)
    (h : (step env st (.setContextState ps)).2 = .err e) :
    (step env st (.setContextState ps)).1 = { st with clock := st.clock + 1 } := by
  rcases setContextState_cases env st ps with ⟨r, hc⟩ | ⟨k, _, hc⟩
  · rw [hc]
  · rw [hc] at h; cases h

/-- a failed set_location leaves table and MdibVersion alone (only `_location` and the clock change) -/
theorem rejected_location_noop (env : Env) (st : St) (loc : Nat) (dh : Option Handle) (e : Err)
    (h : (step env st (.setLocation loc dh)).2 = .err e) :
    (step env st (.setLocation loc dh)).1.tab = st.tab ∧ (step env st (.setLocation loc dh)).1.ver = st.ver ∧
    (step env st (.setLocation loc dh)).1.fresh = st.fresh := by
  rcases setLocation_cases env st loc dh with ⟨l, r, hc⟩ | ⟨d, ddv, _, hc⟩ <;>
    rw [hc] at h ⊢
  · exact ⟨rfl, rfl, rfl⟩
  · cases h

/-- set_location repairs a corrupt table: from *any* state, a set_location that commits leaves exactly one
associated state for the location descriptor it worked on -/
theorem set_location_one_associated (env : Env) (st : St) (loc : Nat) (dh : Option Handle)
    (hv : (step env st (.setLocation loc dh)).1.ver ≠ st.ver) :
    ∃ d, locDescr env dh = .ok d ∧
      ((step env st (.setLocation loc dh)).1.tab.filter (fun s => s.dh == d && s.assoc == .assoc)).length = 1 := by
  rcases setLocation_cases env st loc dh with ⟨l, r, hc⟩ | ⟨d, ddv, hd, hc⟩ <;>
    rw [hc] at hv ⊢
  · exact absurd rfl hv
  · refine ⟨d, hd, ?_⟩
    -- none of the old states of `d` is associated any more, the new state is
    have hnone : ((st.tab.map (disOne false d none (st.ver + 1) st.clock)).map
        (bumpSv st.tab (disHandles false d none st.tab))).filter (fun s => s.dh == d && s.assoc == .assoc) = [] := by
      apply List.filter_eq_nil_iff.2
      intro b hb hp
      obtain ⟨s, hs, rfl⟩ := List.mem_map.1 hb
      rw [Bool.and_eq_true, beq_iff_eq, beq_iff_eq, (bumpSv_core _ _ s).dh, (bumpSv_core _ _ s).assoc] at hp
      exact dis_none_assoc false d none st.tab s hs hp.1 nofun hp.2
    rw [List.filter_append, hnone]
    simp

/-! ### the hypotheses are satisfiable; the model on a concrete history -/

/-- patient (1), location (2), ensemble (3) context descriptors, two other descriptors -/
def env0 : Env := { ctx := [(1, 2), (2, 2), (3, 0)], other := [10, 11], locs := [2] }

def st0 : St :=
  { tab := [ { h := 100, dh := 1, dv := 2, sv := 0, body := 7, assoc := .assoc, bindV := some 3, unbindV := none,
               bindT := some 5, unbindT := none },
             { h := 101, dh := 1, dv := 2, sv := 1, body := 8, assoc := .dis, bindV := some 1, unbindV := some 3,
               bindT := some 2, unbindT := some 5 } ],
    ver := 5, clock := 100, fresh := 1000, loc := none }

example : WF env0 st0 := by constructor <;> decide +kernel

def prop (h dh : Handle) (a : Assoc) : CState :=
  { h := h, dh := dh, dv := 2, sv := 0, body := 9, assoc := a, bindV := none, unbindV := none, bindT := none, unbindT := none }

/-- set a location, a new patient replaces the associated one, the new one is disassociated by an update,
an illegal proposal is rejected -/
def ops0 : List Op :=
  [.setLocation 4 none, .setContextState [prop 1 1 .assoc], .setContextState [prop 1001 1 .dis],
   .setContextState [prop 1000 2 .no]]

example : ((run env0 st0 ops0).tab.map fun s => (s.h, s.assoc, s.bindV, s.unbindV)) =
    [(100, .dis, some 3, some 7), (101, .dis, some 1, some 3), (1000, .assoc, some 6, none),
     (1001, .dis, some 7, some 8)] := by decide +kernel

example : (run env0 st0 ops0).ver = 8 := by decide +kernel

/-- the trace is not empty and every scenario did read the version under the lock -/
example : Generated.ContextLocks.versionReads ≠ [] ∧ ∀ r ∈ Generated.ContextLocks.versionReads, 0 < r.2.1 := by decide +kernel

/-- the handler did fetch entities in the traced SetContextState scenarios -/
example : ∃ r ∈ Generated.ContextLocks.entityReads, 0 < r.2.1 := by decide +kernel

/-- the theorems cover interleaved commits of other transactions: the versions follow the operation's own commit -/
example : ((run env0 st0 [.otherCommit, .setContextState [prop 1 1 .assoc], .otherCommit]).tab.map
    fun s => (s.h, s.bindV, s.unbindV)) = [(100, some 3, some 7), (101, some 1, some 3), (1000, some 7, none)] ∧
    (run env0 st0 [.otherCommit, .setContextState [prop 1 1 .assoc], .otherCommit]).ver = 8 := by decide +kernel

def propEnd : CState :=
  { h := 3, dh := 3, dv := 0, sv := 0, body := 9, assoc := .pre, bindV := none, unbindV := none, bindT := none, unbindT := some 260 }

/-- client-supplied binding attributes: a new `Pre` state keeps the proposed end time (260), is associated by an update
(binding version 6, start time 101) and replaced by a new associated state: unbinding version 7 and end time 102 -/
example : ((run env0 st0 [.setContextState [propEnd], .setContextState [prop 1000 3 .assoc],
      .setContextState [prop 3 3 .assoc]]).tab.filter (·.dh == 3)).map
      (fun s => ((s.h, s.assoc), (s.bindV, s.unbindV), (s.bindT, s.unbindT))) =
    [((1000, .dis), (some 7, some 8), (some 101, some 102)), ((1001, .assoc), (some 8, none), (some 102, none))] := by
  decide +kernel

/-- `unbind_marked` is not vacuous: state 100 is associated, the second operation disassociates it -/
example : ∃ a ∈ (run env0 st0 (ops0.take 1)).tab, a.assoc = .assoc ∧
    ∃ b ∈ (step env0 (run env0 st0 (ops0.take 1)) (.setContextState [prop 1 1 .assoc])).1.tab, b.h = a.h ∧ b.assoc ≠ .assoc := by
  decide +kernel

/-- `bind_marked` is not vacuous: the same operation creates the associated state 1001 -/
example : ∃ b ∈ (step env0 (run env0 st0 (ops0.take 1)) (.setContextState [prop 1 1 .assoc])).1.tab,
    b.assoc = .assoc ∧ ∀ a ∈ (run env0 st0 (ops0.take 1)).tab, a.h = b.h → a.assoc ≠ .assoc := by
  decide +kernel

/-- `rejected_proposal_noop` is not vacuous: an associated state cannot be set to `No` -/
example : (step env0 (run env0 st0 (ops0.take 3)) (.setContextState [prop 1000 2 .no])).2 = .err .valueError := by decide +kernel

/-- two associated proposals for one descriptor are rejected -/
example : (step env0 st0 (.setContextState [prop 1 1 .assoc, prop 101 1 .assoc])).2 = .err .valueError := by decide +kernel

/-- `set_location_one_associated` on a corrupt table (two associated location states) -/
example : ∃ st : St, ¬ (∀ a ∈ st.tab, ∀ b ∈ st.tab, a.dh = b.dh → a.assoc = .assoc → b.assoc = .assoc → a.h = b.h) ∧
    (step env0 st (.setLocation 4 none)).1.ver ≠ st.ver :=
  ⟨{ st0 with tab := [{ prop 100 2 .assoc with }, { prop 101 2 .assoc with }] }, by decide +kernel, by decide +kernel⟩

end Sdc.C10
