import SdcModel.Invocation
import SdcModel.Proofs.InvocationProv
import SdcModel.Proofs.InvocationLts
import SdcModel.Proofs.InvocationCons
import SdcModel.Generated.Invocation
/-!
# C09 — operation invocations follow the BICEPS invocation-state protocol end to end
Property theorems only. Model: `SdcModel/Invocation.lean`; constants, state tables and the lock trace of
`generate_transaction_id`: `Generated/Invocation.lean` (regenerated from the running code on every run).
-/
namespace Sdc.C09
open Sdc.Invocation

/-! ### transaction ids: unique and increasing, for every interleaving of any number of concurrent requests -/

/-- the traced program of `generate_transaction_id` is "lock; read; write(+1); read; unlock" -/
theorem generated_id_prog_locked : Generated.C09.idProg = Lts.lockedProg := rfl

/-- ids leave `generate_transaction_id` in strictly increasing order, and they are `c0+1, c0+2, …` without gaps -/
theorem tx_ids_strictly_increasing (c0 : Nat) (c : Lts.Cfg)
    (h : Lts.Reach Generated.C09.idProg (Lts.Cfg.init c0) c) :
    (c.issued.map (·.2)).Pairwise (· < ·) ∧ ∀ k e, c.issued[k]? = some e → e.2 = c0 + 1 + k := by
  have hg := Lts.good_reach c0 c (generated_id_prog_locked ▸ h)
  exact ⟨Lts.issued_increasing c0 c hg, hg.ids⟩

/-- two different requests never hold the same id -/
theorem tx_ids_unique (c0 : Nat) (c : Lts.Cfg) (h : Lts.Reach Generated.C09.idProg (Lts.Cfg.init c0) c)
    (i j a b : Nat) (hij : i ≠ j) (ha : (c.thr i).res = some a) (hb : (c.thr j).res = some b) : a ≠ b := by
  have hg := Lts.good_reach c0 c (generated_id_prog_locked ▸ h)
  obtain ⟨k1, e1, h1⟩ := Lts.issued_of_res hg ha
  obtain ⟨k2, e2, h2⟩ := Lts.issued_of_res hg hb
  intro hab
  -- equal ids stand at the same position, so they were returned to the same thread
  have hk : k1 = k2 := by omega
  rw [hk, e2] at e1
  cases e1
  exact hij rfl

/-- every request that left the function holds an id, and it is larger than the counter it started from -/
theorem tx_id_returned (c0 : Nat) (c : Lts.Cfg) (h : Lts.Reach Generated.C09.idProg (Lts.Cfg.init c0) c)
    (i : Nat) (hd : (c.thr i).pc = Generated.C09.idProg.length) : ∃ a, (c.thr i).res = some a ∧ c0 < a := by
  have hg := Lts.good_reach c0 c (generated_id_prog_locked ▸ h)
  cases hr : (c.thr i).res with
  | none => exact absurd hr (hg.fin i (hd ▸ by decide))
  | some a =>
    obtain ⟨k, _, hk⟩ := Lts.issued_of_res hg hr
    exact ⟨a, rfl, by omega⟩

/-- real-time order: a request that already holds its id gets a smaller one than any request that receives its id later -/
theorem tx_ids_respect_real_time (c0 : Nat) (c c' : Lts.Cfg)
    (h1 : Lts.Reach Generated.C09.idProg (Lts.Cfg.init c0) c) (h2 : Lts.Reach Generated.C09.idProg c c')
    (i j a b : Nat) (ha : (c.thr i).res = some a) (hb0 : (c.thr j).res = none) (hb : (c'.thr j).res = some b) :
    a < b := by
  have hg := Lts.good_reach c0 c (generated_id_prog_locked ▸ h1)
  have hg' := Lts.good_reach c0 c' (generated_id_prog_locked ▸ Lts.reach_trans _ _ _ _ h1 h2)
  obtain ⟨k1, e1, i1⟩ := Lts.issued_of_res hg ha
  obtain ⟨k2, e2, i2⟩ := Lts.issued_of_res hg' hb
  have hlt : k1 < c.issued.length := (List.getElem?_eq_some_iff.mp e1).1
  -- the later id was not issued yet in `c`: its position lies behind the ids issued there
  have hge : c.issued.length ≤ k2 := by
    apply Nat.le_of_not_lt
    intro hlt2
    have hm : (j, b) ∈ c.issued := by
      rw [List.prefix_iff_getElem?.mp (Lts.issued_prefix_reach _ _ _ h2) k2 hlt2] at e2
      exact Option.some.inj e2 ▸ List.getElem_mem hlt2
    exact hg.back j b hm hb0
  omega

/-- without the lock two concurrent requests can get the same id (so the lock in the trace is what the proof rests on) -/
theorem unlocked_ids_collide :
    ∃ c, Lts.Reach Lts.unlockedProg (Lts.Cfg.init 0) c ∧ (c.thr 0).res = some 1 ∧ (c.thr 1).res = some 1 :=
  ⟨Lts.runSched Lts.unlockedProg (Lts.Cfg.init 0) [0, 1, 0, 1, 0, 1], Lts.runSched_reach _ _ _, by decide, by decide⟩

/-- ... and so can they when only the increment is locked and the value is read for `return` after the release: the second
    request passes the locked block between the first one's release and its read -/
theorem late_read_ids_collide :
    ∃ c, Lts.Reach Lts.lateReadProg (Lts.Cfg.init 0) c ∧ (c.thr 0).res = some 2 ∧ (c.thr 1).res = some 2 :=
  ⟨Lts.runSched Lts.lateReadProg (Lts.Cfg.init 0) [0, 0, 0, 0, 1, 1, 1, 1, 0, 1], Lts.runSched_reach _ _ _, by decide, by decide⟩

/-! ### provider: the messages about one transaction -/

/-- Exact characterisation. The request received after the events `pre` owns the id `counter + 1`; after any further
    events `post` (other requests, dispatches in any order, worker steps of any SCO) the messages that mention this id
    are: nothing yet (request in flight) / the `Wait` response (queued) / one of the four complete exchanges. -/
theorem transaction_messages (cap : Nat) (pre post : List Ev) (r : Req) :
    let tx := (run (Prov.init cap) pre).1.counter + 1
    let res := run (Prov.init cap) (pre ++ .recv r :: post)
    Status res.1 tx r (msgsOf tx res.2) :=
  status_of_request cap pre post r

/-- The invocation states reported for a transaction - all of them in emission order with the repetition of a state
    by the other channel collapsed - are a prefix (`ε`, `Wait`) of a legal word while the request is pending, and once it
    is not pending any more: a legal word `Wait Start F | F`; exactly one response; the reports alone are `Wait Start F`,
    `F` or absent; one and the same final state wherever a final state is mentioned; the response repeats the first report
    (`Wait` ⇒ reports `Wait Start F`; final `F` ⇒ reports `F` or none). -/
theorem states_legal (cap : Nat) (pre post : List Ev) (r : Req) (hl : r.outcome.legal = true) :
    let tx := (run (Prov.init cap) pre).1.counter + 1
    let res := run (Prov.init cap) (pre ++ .recv r :: post)
    let resps := (respsOf tx res.2).map (·.st)
    let reports := (reportsOf tx res.2).map (·.st)
    LegalPrefix (collapse (statesOf tx res.2)) ∧
    (NotPending res.1 tx →
      LegalWord (collapse (statesOf tx res.2)) ∧ resps.length = 1 ∧ (reports = [] ∨ LegalWord reports) ∧
      OneFinal (statesOf tx res.2) ∧
      (∀ s ∈ resps, s = .wait → ∃ f, reports = [.wait, .start, f]) ∧
      (∀ s ∈ resps, s.isFinal = true → reports = [] ∨ reports = [s])) := by
  intro tx res resps reports
  have hs := status_of_request cap pre post r
  refine ⟨status_prefix _ _ _ _ hs hl, ?_⟩
  intro hn
  exact exchange_legal _ _ _ (complete_exchange r tx _ (status_not_pending _ _ _ _ hs hn) hl)

/-- a handler that raises yields `Fail` with error information: the last report of the transaction is
    `Fail` + InvocationError + message, in direct and in queued processing -/
theorem raising_handler_fails_with_error (cap : Nat) (pre post : List Ev) (r : Req) (s : Nat)
    (hr : r.outcome = .raises) (hs : r.sco = some s) :
    let tx := (run (Prov.init cap) pre).1.counter + 1
    let res := run (Prov.init cap) (pre ++ .recv r :: post)
    NotPending res.1 tx → (reportsOf tx res.2).getLast? = some ⟨tx, .fail, true⟩ := by
  intro tx res hn
  have hc := status_not_pending _ _ _ _ (status_of_request cap pre post r) hn
  rcases hc with ⟨h, _⟩ | ⟨_, _, h⟩ | ⟨_, _, h⟩ | ⟨_, _, h⟩
  · rw [hs] at h; cases h
  · rw [reportsOf, h, hr]; rfl
  · rw [reportsOf, h, hr]; rfl
  · rw [reportsOf, h]; rfl

/-- a request for an unknown operation: the dispatch answers `Fail` with error information, sends no report, executes
    no handler (MDIB untouched), queues nothing -/
theorem unknown_operation_fails_noop (p : Prov) (k tx : Nat) (r : Req) (hk : p.inflight[k]? = some (tx, r))
    (hu : r.sco = none) :
    (step p (.handle k)).2 = [.resp ⟨tx, .fail, true⟩] ∧ (step p (.handle k)).1.mdib = p.mdib ∧
      (step p (.handle k)).1.queues = p.queues ∧ (step p (.handle k)).1.counter = p.counter := by
  rw [step_handle_some hk, dispatch_unknown hu]
  exact ⟨rfl, rfl, rfl, rfl⟩

/-- ... and over whole runs: whatever else happens, the only message that ever mentions the id of a request for an
    unknown operation is that `Fail` response -/
theorem unknown_operation_only_fails (cap : Nat) (pre post : List Ev) (r : Req) (hu : r.sco = none) :
    let tx := (run (Prov.init cap) pre).1.counter + 1
    let res := run (Prov.init cap) (pre ++ .recv r :: post)
    msgsOf tx res.2 = [] ∨ msgsOf tx res.2 = [.resp ⟨tx, .fail, true⟩] := by
  intro tx res
  have hs := status_of_request cap pre post r
  cases hs with
  | inflight _ _ h => exact Or.inl h
  | queued s h1 _ _ _ _ _ => rw [hu] at h1; cases h1
  | done _ _ h =>
    rcases h with ⟨_, h⟩ | ⟨h, _⟩ | ⟨h, _⟩ | ⟨h, _⟩
    · exact Or.inr h
    all_goals exact absurd hu h

/-- a burst that fills the operation queue: the request is answered `Fail` and a `Fail` report with error information is
    sent (the code since fix 1542094; without it the requester got a SOAP fault and no invocation state at all) -/
theorem full_queue_fails (p : Prov) (k tx s : Nat) (r : Req) (hk : p.inflight[k]? = some (tx, r))
    (hs : r.sco = some s) (hd : r.direct = false) (hfull : p.cap ≤ (p.queues s).length) :
    (step p (.handle k)).2 = [.report ⟨tx, .fail, true⟩, .resp ⟨tx, .fail, false⟩] ∧
      (step p (.handle k)).1.mdib = p.mdib ∧ (step p (.handle k)).1.queues = p.queues := by
  rw [step_handle_some hk, dispatch_full (p := { p with inflight := p.inflight.eraseIdx k }) hs hd (Nat.not_lt.mpr hfull)]
  exact ⟨rfl, rfl, rfl⟩

/-- the ids the provider model hands out are 1, 2, 3, … in the order of arrival -/
theorem model_ids_count_requests (cap : Nat) (evs : List Ev) :
    (run (Prov.init cap) evs).1.counter = (evs.filter (fun e => match e with | .recv _ => true | _ => false)).length := by
  have h : ∀ (p : Prov), (run p evs).1.counter =
      p.counter + (evs.filter (fun e => match e with | .recv _ => true | _ => false)).length := by
    induction evs with
    | nil => intro p; rfl
    | cons e es ih =>
      intro p
      rw [show (run p (e :: es)).1 = (run (step p e).1 es).1 from rfl, ih]
      cases e with
      | recv r => rw [List.filter_cons_of_pos rfl, List.length_cons]; exact Nat.add_right_comm ..
      | handle k => rw [counter_handle, List.filter_cons_of_neg Bool.false_ne_true]
      | tick s => rw [counter_tick, List.filter_cons_of_neg Bool.false_ne_true]
  exact (h (Prov.init cap)).trans (Nat.zero_add _)

/-! ### consumer: the future of one call, for every ordering of its response among the report parts -/

/-- the observed call is new to the consumer: id not registered, future unknown, nothing of the id buffered -/
def Fresh (c : Cons) (fut tx : Nat) : Prop :=
  c.trans tx = none ∧ NoPendingFut c fut ∧ ownIn tx c.recent = [] ∧ doneOf fut c = [] ∧ fut ∉ c.dropped

/-- Exact result for ANY event list around the response (foreign responses, foreign parts, dropped foreign futures, the
    own parts at any positions, even an illegal own sequence), as long as the parts that arrive before the response -
    counted from the first own part - fit into the bounded buffer: the future is completed at most once, with
    `callResult`, i.e.
    * by a final own part that arrived before the response: with its state and all own parts buffered so far;
    * else, for a `Fail`/`Cnclld`/`CnclldMan` response: at once, with the response state and the own parts so far;
    * else by the first final own part after the response: with its state and all own parts up to it, in order;
    * else not yet. -/
theorem future_completion_exact (c : Cons) (fut tx : Nat) (rs : St) (pre post : List CEv)
    (hfresh : Fresh c fut tx)
    (hpre : ∀ e ∈ pre, e.foreign fut tx = true) (hpost : ∀ e ∈ post, e.foreign fut tx = true)
    (hwin : ((allParts pre).dropWhile (other tx)).length ≤ c.maxlen) :
    doneOf fut (crun c (pre ++ .response fut tx rs :: post)) =
      callResult fut rs (ownParts tx pre) (ownParts tx post) := by
  obtain ⟨h1, h2, h3, h4, h5⟩ := hfresh
  have ha : Alone c fut tx := fun k d hk hd => absurd hd (h2 k d hk)
  have hbuf := buffered_run pre c fut tx ha h1 hpre
    (by rw [List.dropWhile_append_of_pos ((ownIn_eq_nil_iff tx _).mp h3)]; exact hwin)
  obtain ⟨c1a, c1t, c1d, c1x⟩ := closed_run pre c fut tx ha h1 hpre
  rw [crun_append]
  exact (response_run _ fut tx rs post c1a c1t (c1x h5) hpost).trans
    (by rw [c1d, h4, hbuf, h3, List.nil_append, List.nil_append])

/-- The property: for EVERY position of the response among the report parts of the transaction (`Wait Start F`, `F`,
    or any number of non-final parts followed by exactly one final part), with any foreign traffic in between, the
    future of a call whose response is not `Fail`/`Cnclld`/`CnclldMan` completes exactly once, with the final state and
    with all parts of the transaction in arrival order. -/
theorem future_completes_once (c : Cons) (fut tx : Nat) (rs : St) (pre post : List CEv) (ns : List Part) (f : Part)
    (hfresh : Fresh c fut tx)
    (hpre : ∀ e ∈ pre, e.foreign fut tx = true) (hpost : ∀ e ∈ post, e.foreign fut tx = true)
    (hwin : ((allParts pre).dropWhile (other tx)).length ≤ c.maxlen)
    (hparts : ownParts tx pre ++ ownParts tx post = ns ++ [f])
    (hns : ∀ n ∈ ns, n.st.isFinal = false) (hf : f.st.isFinal = true) (hrs : rs.immediate = false) :
    doneOf fut (crun c (pre ++ .response fut tx rs :: post)) = [⟨fut, f.st, true, ns ++ [f]⟩] := by
  rw [future_completion_exact c fut tx rs pre post hfresh hpre hpost hwin, callResult_legal fut rs hparts hns hf,
    if_neg (fun h => by rw [hrs] at h; exact Bool.false_ne_true h.1)]

/-- a `Fail`/`Cnclld`/`CnclldMan` response completes the future exactly once, whatever arrives later; the result carries
    the own parts that arrived before the response (a final one among them supplies the invocation info) -/
theorem future_completes_once_immediate (c : Cons) (fut tx : Nat) (rs : St) (pre post : List CEv)
    (hfresh : Fresh c fut tx)
    (hpre : ∀ e ∈ pre, e.foreign fut tx = true) (hpost : ∀ e ∈ post, e.foreign fut tx = true)
    (hwin : ((allParts pre).dropWhile (other tx)).length ≤ c.maxlen) (hrs : rs.immediate = true) :
    ∃ r, doneOf fut (crun c (pre ++ .response fut tx rs :: post)) = [r] ∧ r.parts = ownParts tx pre ∧
      r.st.isFinal = true ∧ (r.fromReport = false → r.st = rs) ∧
      (r.fromReport = true → ∃ p ∈ ownParts tx pre, p.st = r.st) := by
  rw [future_completion_exact c fut tx rs pre post hfresh hpre hpost hwin, callResult]
  cases hfind : (ownParts tx pre).find? (fun p => p.st.isFinal) with
  | some f =>
    have hfin := List.find?_some hfind
    exact ⟨_, rfl, rfl, hfin, nofun, fun _ => ⟨f, List.mem_of_find?_eq_some hfind, rfl⟩⟩
  | none =>
    refine ⟨_, if_pos hrs, rfl, ?_, fun _ => rfl, nofun⟩
    -- the immediate states are final
    cases rs with
    | fail | cnclld | cnclldMan => rfl
    | wait | start | fin | finMod => cases hrs

/-- End to end. A request whose exchange is complete on the provider (any history around it), delivered to a consumer
    so that the parts of its transaction arrive in the order sent - the response at ANY position among them, any foreign
    traffic in between: the future of the call completes exactly once, with a final state that the provider reported for
    this transaction (by `states_legal` there is only one), and - unless the response itself was `Fail`/`Cnclld`/
    `CnclldMan` - with all report parts of the transaction in order. -/
theorem end_to_end (cap : Nat) (pre post : List Ev) (r : Req) (hl : r.outcome.legal = true)
    (c : Cons) (fut : Nat) (rs : St) (cpre cpost : List CEv) :
    let tx := (run (Prov.init cap) pre).1.counter + 1
    let res := run (Prov.init cap) (pre ++ .recv r :: post)
    NotPending res.1 tx → Fresh c fut tx →
    (∀ e ∈ cpre, e.foreign fut tx = true) → (∀ e ∈ cpost, e.foreign fut tx = true) →
    ((allParts cpre).dropWhile (other tx)).length ≤ c.maxlen →
    (respsOf tx res.2).map (·.st) = [rs] →
    (ownParts tx cpre ++ ownParts tx cpost).map (·.st) = (reportsOf tx res.2).map (·.st) →
    ∃ result, doneOf fut (crun c (cpre ++ .response fut tx rs :: cpost)) = [result] ∧
      result.st.isFinal = true ∧ result.st ∈ statesOf tx res.2 ∧
      (rs.immediate = false → result.parts = ownParts tx cpre ++ ownParts tx cpost) := by
  intro tx res hn hfresh hpre hpost hwin hrs hparts
  have hex := complete_exchange r tx _ (status_not_pending _ _ _ _ (status_of_request cap pre post r) hn) hl
  rw [future_completion_exact c fut tx rs cpre cpost hfresh hpre hpost hwin]
  -- the exchange fixes the response state and the states of the own parts
  change Exchange (statesOf tx res.2) ((respsOf tx res.2).map (·.st)) ((reportsOf tx res.2).map (·.st)) at hex
  generalize statesOf tx res.2 = w at hex ⊢
  generalize (respsOf tx res.2).map (·.st) = wr at hex hrs
  generalize (reportsOf tx res.2).map (·.st) = wp at hex hparts
  cases hex with
  | unknown =>
    -- no report at all: the `Fail` response completes the future
    cases hrs
    obtain ⟨hP, hQ⟩ := List.append_eq_nil_iff.mp (List.map_eq_nil_iff.mp hparts)
    rw [hP, hQ]
    exact ⟨_, rfl, rfl, List.mem_singleton_self _, nofun⟩
  | direct g hg =>
    cases hrs
    obtain ⟨r', h1, h2, h3⟩ := callResult_of_states fut rs (ws := []) hparts nofun hg
    have hst : r'.st = rs := h2.elim id (·.1)
    exact ⟨r', h1, hst ▸ hg, hst ▸ List.mem_cons_self, h3⟩
  | queued g hg =>
    cases hrs
    obtain ⟨r', h1, h2, h3⟩ := callResult_of_states fut .wait (ws := [.wait, .start]) hparts (by decide) hg
    have hst : r'.st = g := h2.elim id (fun h => nomatch h.2)
    exact ⟨r', h1, hst ▸ hg, hst ▸ by simp, h3⟩

/-- a future the application dropped is never completed, and its transaction is forgotten at the final part -/
theorem dropped_future_not_completed (c : Cons) (p : Part) (d : Pending) (hreg : c.trans p.tx = some d)
    (hdrop : d.fut ∈ c.dropped) (hfin : p.st.isFinal = true) :
    (cstep c (.part p)).done = c.done ∧ (cstep c (.part p)).trans p.tx = none := by
  rw [cstep_part_final hreg hfin, if_pos hdrop]
  exact ⟨rfl, setT_same ..⟩

/-- the traced programs of `call_operation` (after the HTTP round trip) and of `on_operation_invoked_report`, in every
    situation (nothing buffered / final part buffered / `Fail` response; unknown, non-final, final part): the scan of the
    early-part buffer, the registration, the look-up, the completion of the future all happen inside ONE critical section
    of `_transactions_lock` - which is what makes `response` and `part` atomic steps of the consumer model -/
theorem generated_rendezvous_one_section :
    Generated.C09.consumerProgs.length = 6 ∧ ∀ p ∈ Generated.C09.consumerProgs, Sync.oneSection p = true := by decide

/-- a scan of the buffer before the lock is taken is rejected by the side condition (what a lost report looks like) -/
theorem scan_outside_lock_rejected : Sync.oneSection [.scanBuf, .acq, .register, .rel] = false := by decide

/-- side condition on the generated constants that makes the window hypothesis of `future_completes_once` an engineering
    fact: the buffer of early parts (shared by all transactions, fed with the reports of every consumer's operations)
    holds at least the reports of a completely filled operation queue plus the running operation (3 parts each) -/
theorem generated_buffer_covers_queue_backlog :
    3 * (Generated.C09.opQueueCap + 1) ≤ Generated.C09.reportDequeMaxlen := by decide

theorem generated_tables_match :
    (∀ s, s ∈ Generated.C09.allStates) ∧
    (∀ s, s.isFinal = false ↔ s ∈ Generated.C09.nonFinalStates) ∧
    (∀ s, s.immediate = true ↔ s ∈ Generated.C09.immediateStates) ∧
    (∀ s ∈ Generated.C09.immediateStates, s.isFinal = true) := by
  -- every state stands in the generated list, so the tables need comparing on that list only
  have hall : ∀ s, s ∈ Generated.C09.allStates := fun s => by cases s <;> decide
  exact ⟨hall,
    fun s => (by decide : ∀ s ∈ Generated.C09.allStates, (s.isFinal = false ↔ s ∈ Generated.C09.nonFinalStates)) s (hall s),
    fun s => (by decide : ∀ s ∈ Generated.C09.allStates, (s.immediate = true ↔ s ∈ Generated.C09.immediateStates)) s (hall s),
    by decide⟩

/-! ### non-vacuity: concrete instances of the hypotheses -/

/-- three requests (unknown / direct raising / queued FinMod) interleaved with worker steps: all three complete -/
example :
    let evs : List Ev := [.recv ⟨none, false, .ok .fin⟩, .recv ⟨some 0, true, .raises⟩, .recv ⟨some 1, false, .ok .finMod⟩,
      .handle 2, .handle 0, .tick 1, .handle 0]
    let res := run (Prov.init 10) evs
    statesOf 1 res.2 = [.fail] ∧ statesOf 2 res.2 = [.fail, .fail] ∧ statesOf 3 res.2 = [.wait, .wait, .start, .finMod] ∧
      res.1.mdib = 2 := by decide

/-- the final part overtakes the response, with foreign parts in between -/
example :
    doneOf 7 (crun (Cons.init 50) [.part ⟨1, 4, .wait⟩, .part ⟨2, 9, .fin⟩, .part ⟨3, 4, .start⟩, .part ⟨4, 4, .finMod⟩,
      .response 7 4 .wait, .part ⟨5, 9, .start⟩]) = [⟨7, .finMod, true, [⟨1, 4, .wait⟩, ⟨3, 4, .start⟩, ⟨4, 4, .finMod⟩]⟩] := by
  decide

example : Fresh (Cons.init 50) 7 4 := by
  refine ⟨rfl, ?_, rfl, rfl, by simp [Cons.init]⟩
  intro k d h; simp [Cons.init] at h

/-- a reachable configuration of the id lock with three threads, two of them finished -/
example : ∃ c, Lts.Reach Generated.C09.idProg (Lts.Cfg.init 0) c ∧ (c.thr 0).res = some 2 ∧ (c.thr 2).res = some 1 :=
  ⟨Lts.runSched Generated.C09.idProg (Lts.Cfg.init 0) [2, 0, 2, 2, 1, 2, 2, 0, 0, 0, 0, 0], Lts.runSched_reach _ _ _,
   by decide, by decide⟩

end Sdc.C09
