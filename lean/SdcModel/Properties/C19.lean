import SdcModel.Tls
import SdcModel.Proofs.Tls
import SdcModel.Generated.TlsSites
/-!
# C19 — with TLS configured no endpoint is advertised or contacted in plaintext
Property theorems only (decision logic; what OpenSSL does with a context is trusted). Model: `SdcModel/Tls.lean`;
helper lemmas: `SdcModel/Proofs/Tls.lean`;
observed sites / verify modes / constructor table: `Generated/TlsSites.lean` (regenerated on every run from a real
provider and consumer talking over localhost in every configuration).
-/
namespace Sdc.C19
open Sdc.Tls

/-- the model's configuration space is complete (the correspondence enumerates exactly `Cfg.all`) -/
theorem config_space_complete (cfg : Cfg) : cfg ∈ Cfg.all := by
  obtain ⟨a, b, c, d, e, f⟩ := cfg
  simp only [Cfg.all, List.mem_flatMap, List.mem_map]
  exact ⟨a, mem_bools a, b, b.mem_all, c, mem_bools c, d, d.mem_all, e, e.mem_all, f, mem_bools f, rfl⟩

/-- provider with TLS configured: every address it writes into a message is https - whatever server it was given,
    whatever host name, whatever the consumer does -, and every connection it opens uses the TLS client context -/
theorem provider_tls_https (cfg : Cfg) (ssl : Option Bool) (h : cfg.provTls = true) :
    (∀ s : Site, s.ofProvider = true → urlScheme cfg ssl s = .https) ∧ provClientTls cfg = true := by
  refine ⟨fun s hs => ?_, h⟩
  rw [urlScheme_provider cfg ssl hs, provScheme, if_pos h]

/-- ... also towards a subscriber that named an `http://` NotifyTo / EndTo address, with either subscription manager:
    the reports are sent with TLS or not at all, never in plaintext -/
theorem provider_delivery_ignores_subscriber_scheme (cfg : Cfg) (h : cfg.provTls = true) (sch : Scheme) (asyncMgr : Bool) :
    deliveryTls cfg sch asyncMgr = true :=
  h

/-- its own HTTP server then speaks TLS: what is advertised is what is served -/
theorem provider_own_server_serves_tls (cfg : Cfg) (h : cfg.provTls = true) (ho : cfg.provServer = .own) :
    provServerTls cfg = true := by
  unfold provServerTls
  rw [ho]
  exact h

/-- once `is_ssl_connection` is `True` it stays `True` and every soap client created afterwards has the TLS context,
    for ANY sequence of connect attempts (failing or not), client look-ups and stops -/
theorem tls_never_falls_back (s : CState) (evs : List CEv) (h : s.ssl = some true) :
    (crun s evs).1.ssl = some true ∧ ∀ b ∈ (crun s evs).2, b = true := by
  induction evs generalizing s with
  | nil => exact ⟨h, nofun⟩
  | cons e es ih =>
    obtain ⟨h1, h2⟩ := cstep_tls h e
    obtain ⟨i1, i2⟩ := ih (cstep s e).1 h1
    exact ⟨i1, fun b hb => (List.mem_append.1 hb).elim (h2 b) (i2 b)⟩

/-- consumer with TLS enforced: for every event sequence every soap client has the TLS context; it never falls back -/
theorem consumer_enforced_no_fallback (evs : List CEv) :
    (crun (CState.init .enforced) evs).1.ssl = some true ∧ ∀ b ∈ (crun (CState.init .enforced) evs).2, b = true :=
  tls_never_falls_back _ evs rfl

/-- ... and NotifyTo / EndTo are https whenever the event sink is accepted (own server, or a shared one that speaks TLS;
    a shared plaintext server is refused) -/
theorem consumer_enforced_https (cfg : Cfg) (evs : List CEv) (h : cfg.cons = .enforced)
    (hacc : eventSinkAccepted cfg (crun (CState.init cfg.cons) evs).1.ssl = true) :
    urlScheme cfg (crun (CState.init cfg.cons) evs).1.ssl .notifyTo = .https ∧
    urlScheme cfg (crun (CState.init cfg.cons) evs).1.ssl .endTo = .https ∧
    consServerTls cfg (crun (CState.init cfg.cons) evs).1.ssl = true := by
  rw [h] at hacc ⊢
  rw [(consumer_enforced_no_fallback evs).1] at hacc ⊢
  have hc := consServerTls_of_accepted hacc
  exact ⟨by rw [urlScheme_consumer cfg _ rfl, hc]; rfl, by rw [urlScheme_consumer cfg _ rfl, hc]; rfl, hc⟩

/-- the same for a consumer in optional mode that got a TLS connection: from then on as if enforced -/
theorem consumer_optional_sticky (evs evs' : List CEv)
    (h : (crun (CState.init .optional) evs).1.ssl = some true) :
    ∀ b ∈ (crun (crun (CState.init .optional) evs).1 evs').2, b = true :=
  (tls_never_falls_back _ evs' h).2

/-- the only fall-back of the code: optional mode, first connect, handshake refused (a TLS client, then a plaintext one) -/
theorem optional_may_fall_back :
    (crun (CState.init .optional) [.connect .sslError]).2 = [true, false] ∧
    (crun (CState.init .optional) [.connect .sslError]).1.ssl = some false := by decide +kernel

/-- without a container no TLS client is ever created, with `force_ssl_connect` only TLS clients: constructor table -/
theorem generated_init_matches : ∀ e ∈ Generated.C19.initSslObserved, initSsl e.1 = e.2 := by decide

/-- contexts built from a CA file require the peer certificate, on the client and on the server side -/
theorem ca_requires_cert : verifyMode false true = .certRequired ∧ verifyMode true true = .certRequired := by decide

/-- ... and that is what `mk_ssl_contexts` produced when the translator ran it (all four combinations) -/
theorem generated_verify_matches :
    Generated.C19.verifyObserved.length = 8 ∧
    (∀ e ∈ Generated.C19.verifyObserved, verifyModeWith e.1 e.2.1 e.2.2.1 = e.2.2.2) ∧
    (∀ cy, (false, true, cy, Verify.certRequired) ∈ Generated.C19.verifyObserved) ∧
    (∀ cy, (true, true, cy, Verify.certRequired) ∈ Generated.C19.verifyObserved) := by decide +kernel

/-- a CA file means CERT_REQUIRED on both sides also when a cyphers string is configured -/
theorem ca_requires_cert_with_cyphers (server cy : Bool) : verifyModeWith server true cy = .certRequired := by
  cases server <;> cases cy <;> rfl

/-- the spelling of the provider address (`http://…` / `https://…`) given to an enforcing consumer has no influence: a
    plaintext shared event-sink server is refused whenever the connection uses TLS -/
theorem event_sink_guard_ignores_address_spelling (cfg : Cfg) (sp : Scheme) (h : cfg.consServer = .sharedPlain) :
    eventSinkAcceptedFor cfg (some true) sp = false := by
  unfold eventSinkAcceptedFor
  rw [h]
  rfl

/-- `mk_ssl_contexts_from_folder`: a CA file that is named (default `cacert.pem`) but missing refuses -/
theorem missing_ca_file_refused (k c : Bool) : fromFolder k c true false = .fileNotFound := by
  cases k <;> cases c <;> rfl

/-- ... so whenever a CA file is named, a returned context pair requires the peer certificate on both sides: no pair with a
    `CERT_NONE` server side is ever returned -/
theorem named_ca_never_degrades (k c p cy : Bool) (cl sv : Verify) (h : fromFolderWith k c true p cy = .contexts cl sv) :
    cl = .certRequired ∧ sv = .certRequired :=
  let ⟨h1, h2⟩ := fromFolder_contexts h
  ⟨h1.trans ca_requires_cert.1, h2.trans ca_requires_cert.2⟩

/-- the decision table observed on real folders (every combination of present / missing files) is the model's -/
theorem generated_folder_matches :
    Generated.C19.folderObserved.length = 32 ∧
    ∀ e ∈ Generated.C19.folderObserved, fromFolderWith e.1 e.2.1 e.2.2.1 e.2.2.2.1 e.2.2.2.2.1 = e.2.2.2.2.2 := by
  decide +kernel

/-- every model site was found in the messages of the real exchange, and nothing else (an unmapped address context makes
    the translator fail) -/
theorem generated_sites_complete : ∀ s : Site, s ∈ Generated.C19.observedSites := by
  intro s; cases s <;> decide

/-- over the whole configuration space: TLS on the provider, or a TLS connection on the consumer with an accepted
    event sink, leaves no plaintext address of an own endpoint -/
theorem no_plaintext_address_anywhere :
    ∀ cfg ∈ Cfg.all, ∀ s ∈ Site.all,
      (s.ofProvider = true → cfg.provTls = true → urlScheme cfg (some true) s = .https) ∧
      (s.ofProvider = false → eventSinkAccepted cfg (some true) = true → urlScheme cfg (some true) s = .https) :=
  fun cfg _ s _ => urlScheme_https cfg s

/-! ### non-vacuity -/
example : (crun (CState.init .enforced) [.connect .ok, .getClient 1, .stop, .connect .sslError, .getClient 0]).2 = [true, true, true] := by
  decide +kernel
example : (crun (CState.init .optional) [.connect .ok, .stop, .connect .otherError]).2 = [true, true] := by
  decide +kernel
example : eventSinkAccepted ⟨true, .own, false, .enforced, .sharedTls, true⟩ (some true) = true := by decide

end Sdc.C19
