import SdcModel.Http
import SdcModel.RequestFlow
import SdcModel.Proofs.Http
import SdcModel.Proofs.RequestFlow
import SdcModel.Generated.Codings
/-!
# C17 — HTTP body framing and content coding are lossless and honour negotiation
Property theorems only. Model: `SdcModel/Http.lean` (+ `Basic/ChunkHex.lean`); registry and reader window:
`Generated/Codings.lean` (regenerated from `CompressionHandler` / `HTTPReader._read_until` on every run).
-/
namespace Sdc.C17
open Sdc.Http Sdc.ChunkHex

/-- the reader returns exactly the body the writer framed — for every byte string, every chunk size the reader's
    `w`-byte size-line window can hold (`w = 16`: `1 ≤ n < 16^14 = 2^56`), and any pipelined data behind the body -/
theorem dechunk_mkChunks (w n : Nat) (hn : 1 ≤ n) (hw : 2 ≤ w) (hn' : n < 16 ^ (w - 2)) (body tail : Bytes) :
    dechunk w (mkChunks n body ++ tail) = .ok (body, tail) :=
  Http.dechunk_mkChunks w n hn (window_of_lt hn hw hn') body tail

/-- the same for the window the running code uses -/
theorem dechunk_mkChunks_generated (n : Nat) (hn : 1 ≤ n) (hn' : n < 16 ^ 14) (body : Bytes) :
    dechunk Generated.Codings.headerWindow (mkChunks n body) = .ok (body, []) :=
  dechunk_mkChunks_nil Generated.Codings.headerWindow n hn (by decide) hn' body

/-- the bound is sharp: a chunk of `16^14` bytes gets a 15 digit size line, which the 16 byte window cannot hold -/
theorem window_bound_sharp : (toHexBytes (16 ^ 14)).length + 2 > Generated.Codings.headerWindow := by decide +kernel

/-- what `mk_chunks` writes is an RFC 7230 chunked-body, for every body and every chunk size ≥ 1 -/
theorem mkChunks_wellformed (n : Nat) (hn : 1 ≤ n) (body : Bytes) : isChunkedBody (mkChunks n body) = true :=
  isChunkedF_mkChunksF n hn _ _ body (Nat.lt_succ_self _) (Nat.lt_succ_self _)

/-- totality of the reader: every byte string gives a body or `DechunkError`; the loop bound (stream length + 1
    passes) is never the reason, i.e. the loop terminates because every pass consumes input -/
theorem dechunk_total (w : Nat) (s : Bytes) :
    (∃ body rest, dechunk w s = .ok (body, rest)) ∨ dechunk w s = .error .dechunk :=
  (dechunk_spec w s).imp_left fun ⟨body, rest, h, _⟩ => ⟨body, rest, h⟩

/-- a successful read never needs more passes than the stream is long: any larger bound gives the same result -/
theorem dechunk_bound_irrelevant (w g : Nat) (s : Bytes) (hg : s.length + 1 ≤ g) (r : Bytes × Bytes)
    (h : dechunk w s = .ok r) : dechunkF w g s = .ok r :=
  (dechunkF_fuel w hg (Nat.lt_succ_self _)).trans h

/-- the unread rest is a proper suffix: a successful read consumed at least the terminating chunk -/
theorem dechunk_consumes (w : Nat) (s body rest : Bytes) (h : dechunk w s = .ok (body, rest)) : rest.length < s.length := by
  rcases dechunk_spec w s with ⟨body', rest', h', hlt⟩ | h'
  · rw [h] at h'; injection h' with h'; injection h' with _ hr
    rw [hr]; exact hlt
  · rw [h] at h'; cases h'

/-- a coding is chosen only if it is enabled locally and the header declares it with a weight > 0
    (weight = explicit q-value of the last element naming the coding, 1 if it has none) -/
theorem choice_sound (h : Str) (sup : List Str) (c : Str) (hc : choose (parseHeader h) sup = some c) :
    c ∈ sup ∧ ∃ q, weightOf h c = some q ∧ q.pos = true :=
  ⟨(choose_some hc).2, mem_parseHeader (choose_some hc).1⟩

/-- a coding declared with `q=0` (or any non-positive weight) is never chosen, whatever else the header says -/
theorem q0_never_chosen (h : Str) (sup : List Str) (c : Str) (q : Q) (hq : weightOf h c = some q) (h0 : q.pos = false) :
    choose (parseHeader h) sup ≠ some c := by
  intro hc
  obtain ⟨_, q', hq', hpos⟩ := choice_sound h sup c hc
  rw [hq] at hq'; injection hq' with hq'
  rw [← hq', h0] at hpos; cases hpos

/-- no header, or an empty one: nothing is chosen, the message goes out uncoded -/
theorem no_header_no_coding (sup : List Str) : choose (parseHeader []) sup = none := rfl

/-- request path and response path choose with the same function: what is sent carries a Content-Encoding only if
    that coding is a candidate (declared by the peer) and enabled locally -/
theorem sent_coding_negotiated (r : Registry) (cands sup : List Str) (chunk : Nat) (body : Bytes) (h : Hdrs) (wire : Bytes)
    (c : Str) (he : encodeMessage r cands sup chunk body = .ok (h, wire)) (hc : h.contentEncoding = some c) :
    c ∈ cands ∧ c ∈ sup := by
  obtain ⟨_, _, _, hce⟩ := encodeMessage_ok he
  exact choose_some (hce.symm.trans hc)

/-- response path: `do_POST` codes the response only with a coding the request's Accept-Encoding declares with q > 0 -/
theorem response_coding_declared (r : Registry) (sup : List Str) (chunk : Nat) (ae : Option Str) (body : Bytes) (h : Hdrs)
    (wire : Bytes) (c : Str) (he : respond r sup chunk ae body = .ok (h, wire)) (hc : h.contentEncoding = some c) :
    c ∈ sup ∧ ∃ q, weightOf (ae.getD []) c = some q ∧ q.pos = true := by
  have := sent_coding_negotiated r _ sup chunk body h wire c he hc
  exact ⟨this.2, mem_parseHeader this.1⟩

/-- histories with configuration changes (`set_used_compression` after start): every response is coded only with a coding
    that is enabled *at that time* and that the header of *that* request declares with a weight > 0 -/
theorem history_choice_sound (cfg : List Str) (ops : List CfgOp) :
    ∀ e ∈ cfgRun cfg ops, ∀ c, e.2.2 = some c → c ∈ e.1 ∧ ∃ q, weightOf (e.2.1.getD []) c = some q ∧ q.pos = true := by
  intro e he c hc
  exact choice_sound _ _ c ((cfgRun_entry he).1.symm.trans hc)

/-- a changed configuration takes effect with the next response: what was enabled before does not matter -/
theorem config_change_effective (cfg ns : List Str) (ops : List CfgOp) : cfgRun cfg (.setUsed ns :: ops) = cfgRun ns ops := rfl

/-- compression switched off: no response is coded until it is switched on again -/
theorem disabled_never_coded (cfg : List Str) (aes : List (Option Str)) :
    ∀ e ∈ cfgRun cfg (.setUsed [] :: aes.map .request), e.2.2 = none := by
  intro e he
  obtain ⟨hch, hcfg | hset⟩ := cfgRun_entry (cfg := []) he
  · rw [hch, hcfg]; exact choose_nil _
  · obtain ⟨ae, _, hae⟩ := List.mem_map.1 hset
    cases hae

/-- notification direction: a report / SubscriptionEnd is coded only with a coding that the subscriber's Subscribe request
    declared with a weight > 0 and that the provider has enabled -/
theorem notification_coding_declared (r : Registry) (enabled : List Str) (chunk : Nat) (ae : Option Str) (report : Bytes) (h : Hdrs)
    (wire : Bytes) (c : Str) (he : notify r enabled chunk ae report = .ok (h, wire)) (hc : h.contentEncoding = some c) :
    c ∈ enabled ∧ ∃ q, weightOf (ae.getD []) c = some q ∧ q.pos = true := by
  obtain ⟨h0, a, hm, rfl⟩ := sendRequest_ok he
  have := sent_coding_negotiated r _ enabled chunk report h0 wire c hm hc
  exact ⟨this.2, mem_parseHeader this.1⟩

/-- what is sent never carries Content-Length together with Transfer-Encoding (RFC 7230 3.3.2), and exactly one of them -/
theorem framing_exclusive (r : Registry) (cands sup : List Str) (chunk : Nat) (body : Bytes) (h : Hdrs) (wire : Bytes)
    (he : encodeMessage r cands sup chunk body = .ok (h, wire)) :
    (h.transferEncoding = some chunkedStr ∧ h.contentLength = none) ∨
    (h.transferEncoding = none ∧ h.contentLength = some (.val wire.length)) := by
  obtain ⟨z, hfr, _⟩ := encodeMessage_ok he
  rcases hfr with ⟨_, h1, h2, _⟩ | ⟨_, h1, h2, rfl⟩
  · exact .inl ⟨h1, h2⟩
  · exact .inr ⟨h1, h2⟩

/-! ### framing on a persistent connection: the peer reads exactly the message -/

/-- how the reader's exception classes look to the request handler (none of them is a HTTPRequestHandlingError) -/
def readerExc : Err → RequestFlow.Exc
  | .dechunk => .other 1 | .decompress => .other 2 | .compression => .other 3 | .codec => .other 4
  | .value => .other 5 | .type => .other 6 | .fuel => .other 7

/-- outcome of `self._read_request()` for the bytes at the head of the connection -/
def readStage (w : Nat) (r : Registry) (sup : List Str) (h : Hdrs) (wire : Bytes) : RequestFlow.Stage Unit :=
  match readRequestBody w r sup h wire with
  | .ok _ => .ok ()
  | .error e => .error (readerExc e)

/-- whatever makes `read_request_body` raise — broken chunk framing, an invalid / negative / empty Content-Length (raised before a
    single body byte is consumed), a coding that is not enabled or corrupt, a coded body without length — the request is answered
    400 and the connection ends: no byte behind the unreadable message is interpreted as a further request, nothing is executed -/
theorem unreadable_message_ends_connection {σ : Type} (w : Nat) (r : Registry) (sup : List Str) (h : Hdrs) (wire : Bytes) (e : Err)
    (hr : readRequestBody w r sup h wire = .error e) (hasDisp : Bool) (lookup : RequestFlow.Stage Unit)
    (post : σ → RequestFlow.Stage RequestFlow.Response × σ) (rest : List (RequestFlow.HandlerEnv σ)) (s : σ) :
    RequestFlow.serveConn (⟨readStage w r sup h wire, hasDisp, lookup, post, .ok .error⟩ :: rest) s
      = ([.plain 400 .exception], s) :=
  RequestFlow.serveConn_of_readBody_error (x := readerExc e) (by unfold readStage; rw [hr]) rest s

/-- the framing errors that are raised before the body is touched (the body bytes are still in the stream) -/
theorem bad_length_is_unreadable (w : Nat) (r : Registry) (sup : List Str) (h : Hdrs) (wire : Bytes) (hc : h.isChunked = false)
    (hl : h.contentLength = some .empty ∨ h.contentLength = some .bad ∨ ∃ n, h.contentLength = some (.val n) ∧ n < 0) :
    readRequestBody w r sup h wire = .error .value := by
  unfold readRequestBody
  rw [if_neg (hc ▸ Bool.false_ne_true)]
  rcases hl with hl | hl | ⟨n, hl, hn⟩
  · rw [hl]
  · rw [hl]
  · rw [hl]; exact if_pos hn

/-- both framing headers present: Transfer-Encoding wins (RFC 7230 3.3.3) — the Content-Length value has no influence on what is
    read, so no part of the chunked message can be left in the stream as a "next request" -/
theorem both_headers_chunked_wins (w : Nat) (r : Registry) (sup : List Str) (h : Hdrs) (wire : Bytes) (cl : Option ClVal)
    (hc : h.isChunked = true) :
    readRequestBody w r sup { h with contentLength := cl } wire = readRequestBody w r sup h wire := by
  have hc' : ({ h with contentLength := cl } : Hdrs).isChunked = true := hc
  unfold readRequestBody
  rw [if_pos hc, if_pos hc']
  rfl

/-- a readable message followed by further requests: the connection goes on (keep-alive is not lost by the repair) -/
theorem readable_message_keeps_connection {σ : Type} (lookup : RequestFlow.Stage Unit) (post : σ → RequestFlow.Stage RequestFlow.Response × σ)
    (rest : List (RequestFlow.HandlerEnv σ)) (s : σ) :
    ∃ o, (RequestFlow.serveConn (⟨.ok (), true, lookup, post, .ok .error⟩ :: rest) s).1
      = o :: (RequestFlow.serveConn rest (RequestFlow.doPOST ⟨.ok (), true, lookup, post, .ok .error⟩ s).2).1 := by
  obtain ⟨o, _, h⟩ := RequestFlow.serveConn_of_readable
    (e := ⟨.ok (), true, lookup, post, .ok .error⟩) (u := ()) rfl rfl rest s
  exact ⟨o, by rw [h]⟩

/-- **request path**: what `SoapClient._send_soap_request` puts on the wire is read back by
    `HTTPReader.read_request_body` as the original bytes — every body, every chunk size in the reader's window (or no
    chunking), every coding choice, provided the receiver has the chosen coding enabled -/
theorem request_roundtrip (w : Nat) (hw : 2 ≤ w) (r : Registry) (hl : CodecsLossless r) (hne : NamesNonEmpty r)
    (supS requestEncs supR : List Str) (chunk : Nat) (hchunk : chunk < 16 ^ (w - 2)) (xml : Bytes) (h : Hdrs) (wire : Bytes)
    (hs : sendRequest r supS requestEncs chunk xml = .ok (h, wire))
    (hacc : ∀ c, h.contentEncoding = some c → (r.effective supR).contains c = true) :
    readRequestBody w r supR h wire = .ok (some xml) := by
  obtain ⟨h0, ae, he, rfl⟩ := sendRequest_ok hs
  obtain ⟨z, hf, hz, _⟩ := encodeMessage_ok he
  -- the reader does not look at the Accept-Encoding header that `sendRequest` added to `h0`
  exact (readRequestBody_framed (h := h0) hw hchunk hf).trans (decodeBody_coded hl hne hacc hz)

/-- **response path**: what `do_POST` writes, passed through the chunked reader of the HTTP client, is decoded by
    `HTTPReader.read_response_body` to the bytes the component returned -/
theorem response_roundtrip (w : Nat) (hw : 2 ≤ w) (r : Registry) (hl : CodecsLossless r) (hne : NamesNonEmpty r)
    (supS supC : List Str) (chunk : Nat) (hchunk : chunk < 16 ^ (w - 2)) (ae : Option Str) (body : Bytes) (h : Hdrs)
    (wire : Bytes) (hs : respond r supS chunk ae body = .ok (h, wire))
    (hacc : ∀ c, h.contentEncoding = some c → (r.effective supC).contains c = true) :
    ∃ payload, clientTransport w h wire = .ok payload ∧ readResponseBody r supC h payload = .ok (some body) := by
  obtain ⟨z, hf, hz, _⟩ := encodeMessage_ok hs
  obtain ⟨ht, hr⟩ := readResponseBody_framed hw hchunk hf
  exact ⟨z, ht, hr.trans (decodeBody_coded hl hne hacc hz)⟩

/-- a body that arrives with a Content-Encoding is only ever returned as the output of the registered decoder of
    exactly that coding, and only if the coding is enabled — nothing else can come out (no misinterpretation) -/
theorem decoded_only_by_declared (w : Nat) (r : Registry) (sup : List Str) (h : Hdrs) (wire : Bytes) (b : Option Bytes)
    (enc : Str) (hr : readRequestBody w r sup h wire = .ok b) (he : h.contentEncoding = some enc) (hne : enc ≠ []) :
    (r.effective sup).contains enc = true ∧
      ∃ codec payload y, r.getHandler enc = .ok codec ∧ codec.dec payload = some y ∧ b = some y := by
  obtain ⟨body, hd⟩ := readRequestBody_ok hr
  exact decodeBody_ok hd he hne

/-- a negative Content-Length is rejected before anything is read (the pinned tree called `rfile.read(-1)`: read until the peer closes) -/
theorem negative_length_rejected (w : Nat) (r : Registry) (sup : List Str) (h : Hdrs) (wire : Bytes) (n : Int)
    (hc : h.isChunked = false) (hl : h.contentLength = some (.val n)) (hn : n < 0) :
    readRequestBody w r sup h wire = .error .value :=
  bad_length_is_unreadable w r sup h wire hc (.inr (.inr ⟨n, hl, hn⟩))

/-- a request in a coding that is not enabled is rejected: no body is returned -/
theorem unsupported_rejected (w : Nat) (r : Registry) (sup : List Str) (h : Hdrs) (wire : Bytes) (enc : Str)
    (he : h.contentEncoding = some enc) (hne : enc ≠ []) (hu : (r.effective sup).contains enc = false) :
    ∀ b, readRequestBody w r sup h wire ≠ .ok b := by
  intro b hr
  have := (decoded_only_by_declared w r sup h wire b enc hr he hne).1
  rw [hu] at this; cases this

/-- … likewise a coding without a registered handler -/
theorem unregistered_rejected (w : Nat) (r : Registry) (sup : List Str) (h : Hdrs) (wire : Bytes) (enc : Str)
    (he : h.contentEncoding = some enc) (hne : enc ≠ []) (hu : r.getHandler enc = .error .compression) :
    ∀ b, readRequestBody w r sup h wire ≠ .ok b := by
  intro b hr
  obtain ⟨_, codec, _, _, hg, _, _⟩ := decoded_only_by_declared w r sup h wire b enc hr he hne
  rw [hu] at hg; cases hg

/-- … and a corrupt coding: when the registered decoder rejects the framed payload the reader raises the codec's
    error — whatever the framing (chunked or Content-Length) -/
theorem corrupt_rejected (w : Nat) (r : Registry) (sup : List Str) (h : Hdrs) (wire payload rest : Bytes) (n : Int) (enc : Str)
    (codec : Codec) (he : h.contentEncoding = some enc) (hne : enc ≠ []) (hen : (r.effective sup).contains enc = true)
    (hg : r.getHandler enc = .ok codec)
    (hframe : (h.isChunked = true ∧ dechunk w wire = .ok (payload, rest)) ∨
              (h.isChunked = false ∧ h.contentLength = some (.val n) ∧ 0 ≤ n ∧ payload = pyRead wire n))
    (hbad : codec.dec payload = none) :
    readRequestBody w r sup h wire = .error .codec := by
  have hd : decodeBody r sup h (some payload) = .error .codec := by
    rw [decodeBody_declared he hne hen hg, hbad]; rfl
  rcases hframe with ⟨h1, h2⟩ | ⟨h1, h2, hn, rfl⟩
  · rw [readRequestBody_chunked h1 h2]; exact hd
  · rw [readRequestBody_length h1 h2 hn]; exact hd

/-- the response reader applies the same rule -/
theorem response_decoded_only_by_declared (r : Registry) (sup : List Str) (h : Hdrs) (payload : Bytes) (b : Option Bytes)
    (enc : Str) (hr : readResponseBody r sup h payload = .ok b) (he : h.contentEncoding = some enc) (hne : enc ≠ []) :
    (r.effective sup).contains enc = true ∧
      ∃ codec p y, r.getHandler enc = .ok codec ∧ codec.dec p = some y ∧ b = some y := by
  obtain ⟨body, hd⟩ := readResponseBody_ok hr
  exact decodeBody_ok hd he hne

/-- every available encoding is lower case ASCII, non-empty, registered under exactly that name (so `get_handler`
    finds it), no name is registered twice, and the size-line window is the 16 bytes the theorems are instantiated with -/
theorem generated_registry_wf :
    (∀ n ∈ Generated.Codings.available, n ≠ [] ∧ n.map asciiLower = n ∧ n ∈ Generated.Codings.handlerNames) ∧
    Generated.Codings.handlerNames.Nodup ∧ Generated.Codings.available.Nodup ∧
    Generated.Codings.handlerNames.length = Generated.Codings.handlerClasses.length ∧
    Generated.Codings.headerWindow = 16 := by
  decide +kernel

/-! ### non-vacuity -/

/-- a codec satisfying the assumption (the one the driver and the harness install for the correspondence runs) -/
def toy (tag : Nat) : Codec where
  enc x := tag :: x.reverse
  dec
    | t :: y => if t = tag then some y.reverse else none
    | [] => none

def toyRegistry : Registry := ⟨[([103, 122, 105, 112], toy 65)], [[103, 122, 105, 112]]⟩

example : CodecsLossless toyRegistry ∧ NamesNonEmpty toyRegistry := by
  constructor
  · intro e he x
    simp only [toyRegistry, List.mem_singleton] at he
    subst he; simp [toy]
  · intro e he
    simp only [toyRegistry, List.mem_singleton] at he
    subst he; simp

example : mkChunks 3 [104, 101, 108, 108, 111] = [51, 13, 10, 104, 101, 108, 13, 10, 50, 13, 10, 108, 111, 13, 10, 48, 13, 10, 13, 10] := by
  decide +kernel

example : dechunk 16 (mkChunks 3 [104, 101, 108, 108, 111] ++ [71]) = .ok ([104, 101, 108, 108, 111], [71]) := by decide +kernel

/-- body cut inside a chunk, and a size line without CRLF: `DechunkError` (the pinned tree looped / raised AttributeError) -/
example : dechunk 16 [53, 13, 10, 97, 98] = .error .dechunk ∧ dechunk 16 [53] = .error .dechunk := by decide +kernel

/-- `gzip;q=0, x-lz4;q=0.5` -/
example : parseHeader [103, 122, 105, 112, 59, 113, 61, 48, 44, 32, 120, 45, 108, 122, 52, 59, 113, 61, 48, 46, 53]
    = [[120, 45, 108, 122, 52]] := by decide +kernel

example : weightOf [103, 122, 105, 112, 59, 113, 61, 48, 44, 32, 120, 45, 108, 122, 52, 59, 113, 61, 48, 46, 53]
    [103, 122, 105, 112] = some ⟨false, 0, 0⟩ := by decide +kernel

/-- a complete exchange with the toy codec, chunk size 2 -/
example : ∃ h wire, sendRequest toyRegistry [[103, 122, 105, 112]] [[103, 122, 105, 112]] 2 [1, 2, 3] = .ok (h, wire) ∧
    h.contentEncoding = some [103, 122, 105, 112] ∧ readRequestBody 16 toyRegistry [] h wire = .ok (some [1, 2, 3]) := by
  refine ⟨_, _, rfl, rfl, ?_⟩
  decide +kernel

/-- all codings, then only gzip, then none; the peer keeps asking for `x-lz4, gzip;q=0.5` -/
example : (cfgRun [[103, 122, 105, 112], [120, 45, 108, 122, 52]]
      [.request (some [120, 45, 108, 122, 52, 44, 32, 103, 122, 105, 112, 59, 113, 61, 48, 46, 53]), .setUsed [[103, 122, 105, 112]],
       .request (some [120, 45, 108, 122, 52, 44, 32, 103, 122, 105, 112, 59, 113, 61, 48, 46, 53]), .setUsed [],
       .request (some [120, 45, 108, 122, 52, 44, 32, 103, 122, 105, 112, 59, 113, 61, 48, 46, 53])]).map (·.2.2)
    = [some [120, 45, 108, 122, 52], some [103, 122, 105, 112], none] := by decide +kernel

end Sdc.C17
