import SdcModel.ObjGraph
import SdcModel.Proofs.ObjGraphInv
import SdcModel.Generated.CopyTable
/-!
# C12 — instances never share mutable state or alter the defaults of later instances
Model: `SdcModel/ObjGraph.lean` (identity trees, universe-wide in-place updates); what every class × property slot does
on construction / absent element / `__get__` / copy is the table `Generated/CopyTable.lean`, regenerated from the
running code. All theorems hold for every table with `tableOK` ("no descriptor hands out a class-level object;
`deepcopy` shares nothing with its source"), every list of class defaults `D` and every op list.
-/
namespace Sdc.C12
open Sdc.ObjGraph

/-- the class-level default objects are never changed, whatever was constructed, parsed, copied or written -/
theorem defaults_untouched (T : Table) (hT : tableOK T = true) (D : List Tree) (ops : List Op) :
    (run T (init D) ops).defaults = D :=
  (reached_inv hT D ops).dflt

/-- a freshly constructed object of any class has the same value at any time in the life of the process -/
theorem defaults_stable (T : Table) (hT : tableOK T = true) (D : List Tree) (ops : List Op) (c : Nat) :
    constructVal T (run T (init D) ops) c = constructVal T (init D) c := by
  simp only [constructVal, defaults_untouched T hT D ops]
  exact construct_strip T D _ _ c

/-- no instance, however obtained, contains a class-level object -/
theorem no_default_inside_instance (T : Table) (hT : tableOK T = true) (D : List Tree) (ops : List Op)
    (a : Inst) (ha : a ∈ (run T (init D) ops).insts) : Disjoint a.tree.ids (idsL D) :=
  fun x hx => (reached_inv hT D ops).sepD a ha x hx

/-- independently obtained instances (different groups: not linked by a shallow copy or an update from one another)
    have disjoint sets of mutable objects -/
theorem instances_disjoint (T : Table) (hT : tableOK T = true) (D : List Tree) (ops : List Op) (i j : Nat)
    (a b : Inst) (hi : (run T (init D) ops).insts[i]? = some a) (hj : (run T (init D) ops).insts[j]? = some b)
    (hg : a.grp ≠ b.grp) : Disjoint a.tree.ids b.tree.ids :=
  (reached_inv hT D ops).sep a (List.mem_of_getElem? hi) b (List.mem_of_getElem? hj) hg

/-- after any history, one more operation leaves every instance unchanged that is not in the group of an instance
    the operation writes through -/
theorem other_instances_unchanged (T : Table) (hT : tableOK T = true) (D : List Tree) (ops : List Op) (op : Op)
    (s' : St) (h : step T (run T (init D) ops) op = some s') (k : Nat) (b : Inst)
    (hb : (run T (init D) ops).insts[k]? = some b)
    (hind : ∀ i ∈ op.touched, ∀ a : Inst, (run T (init D) ops).insts[i]? = some a → a.grp ≠ b.grp) :
    ∃ b' : Inst, s'.insts[k]? = some b' ∧ b'.tree = b.tree ∧ b'.cls = b.cls :=
  ⟨b, (step_pack hT (reached_inv hT D ops) h).2 k b hb hind, rfl, rfl⟩

/-- where the table says that `mk_copy` / `copy.copy` of a class is deep (`copyDeep`), the copy has the value of its
    source, starts a group of its own and shares no mutable object with the source. (On this tree `mk_copy` is shallow
    by design; the provider makes its private copies in `mdib/transactions.py`.) -/
theorem deep_copy_independent (T : Table) (hT : tableOK T = true) (D : List Tree) (ops : List Op) (i : Nat) (a : Inst)
    (hi : (run T (init D) ops).insts[i]? = some a) (hd : clsFlag T a.cls (·.copyDeep) = true) (s' : St)
    (h : step T (run T (init D) ops) (.copy i) = some s') :
    ∃ e : Inst, s'.insts = (run T (init D) ops).insts ++ [e] ∧ e.cls = a.cls ∧
      e.grp = (run T (init D) ops).insts.length ∧ e.tree.strip = a.tree.strip ∧ Disjoint e.tree.ids a.tree.ids :=
  step_copy_deep (reached_inv hT D ops) hi hd h

/-- where the table says that `update_from_other_container` copies deeply (`updDeep`) it links nothing: every instance
    keeps its group, so `self` and `other` still have disjoint mutable objects afterwards -/
theorem deep_update_keeps_groups (T : Table) (hT : tableOK T = true) (D : List Tree) (ops : List Op) (i j : Nat)
    (skip : List Nat) (a : Inst) (hi : (run T (init D) ops).insts[i]? = some a)
    (hd : clsFlag T a.cls (·.updDeep) = true) (s' : St)
    (h : step T (run T (init D) ops) (.update i j skip) = some s') :
    ∀ (m : Nat) (c : Inst), (run T (init D) ops).insts[m]? = some c → ∃ c' : Inst, s'.insts[m]? = some c' ∧ c'.grp = c.grp := by
  obtain ⟨a', _, hi', _, _, _, hdeep⟩ := update_pack (reached_inv hT D ops) h
  cases hi.symm.trans hi'
  exact hdeep hd

/-- instances created by `cls()`, `from_node` and `deepcopy` start a group of their own -/
theorem new_instance_new_group (T : Table) (hT : tableOK T = true) (D : List Tree) (ops : List Op) (c : Nat) (s' : St)
    (h : step T (run T (init D) ops) (.construct c) = some s') :
    ∃ e : Inst, s'.insts = (run T (init D) ops).insts ++ [e] ∧ ∀ a ∈ (run T (init D) ops).insts, a.grp ≠ e.grp := by
  rw [step] at h
  split at h
  · cases h
    exact ⟨_, rfl, fun a ha => Nat.ne_of_lt ((reached_inv hT D ops).gLt a ha)⟩
  · cases h

/-- the table generated from the running code satisfies the side condition (kernel evaluation of the whole table) -/
theorem generated_table_ok : tableOK Generated.CopyTable.copyTable = true := by decide +kernel

/-- ... hence the theorems above apply to the real classes -/
theorem generated_defaults_stable (ops : List Op) (c : Nat) :
    constructVal Generated.CopyTable.copyTable (run Generated.CopyTable.copyTable (init Generated.CopyTable.defaults) ops) c =
      constructVal Generated.CopyTable.copyTable (init Generated.CopyTable.defaults) c :=
  defaults_stable _ generated_table_ok _ ops c

/-! ### non-vacuity and necessity of `tableOK` -/

/-- a two-class universe: class 0 = a data type with one leaf; class 1 = a container whose member 0 has a
    class-level default (an instance of class 0), member 1 is a list -/
def exD : List Tree := [.imm 0, .obj 1 [.imm 7], .imm 0]
def exT (absent : Mode) : Table :=
  [⟨[⟨0, .imm 0, .imm 0, .plain⟩], false, true, false, false, false, true⟩,
   ⟨[⟨1, .copyDefault, absent, .plain⟩, ⟨2, .fresh (.obj 0 []), .fresh (.obj 0 []), .lazy⟩], false, true, false, true, false, true⟩]

def exOps : List Op :=
  [.parse 1 (.obj 1 [.absent, .list []]), .setKid 0 [0] 0 (.imm 9), .copy 0, .construct 1, .update 2 0 [],
   .append 1 [1] (.imm 3)]

example : tableOK (exT .copyDefault) = true := by decide
example : constructVal (exT .copyDefault) (run (exT .copyDefault) (init exD) exOps) 1
    = some (.obj 0 [.obj 0 [.imm 7], .obj 0 []]) := by decide +kernel
example : ((run (exT .copyDefault) (init exD) exOps).insts.map (·.grp)) = [0, 0, 0] := by decide +kernel

/-- what the pinned tree did (`get_py_value_from_node` returned the default itself): the same history changes the
    value of every later `cls()`; so `tableOK` cannot be dropped -/
theorem shared_default_breaks :
    tableOK (exT .theDefault) = false ∧
    constructVal (exT .theDefault) (run (exT .theDefault) (init exD) exOps) 1 ≠
      constructVal (exT .theDefault) (init exD) 1 := by decide +kernel

/-- the statement at full strength for copies: a copy (`mk_copy` / `copy.copy`) shares no mutable object with its source -/
def copies_independent_full : Prop :=
  ∀ (T : Table) (D : List Tree) (ops : List Op) (i : Nat) (a e : Inst), tableOK T = true →
    (run T (init D) ops).insts[i]? = some a →
    (run T (init D) (ops ++ [.copy i])).insts[(run T (init D) ops).insts.length]? = some e →
    Disjoint e.tree.ids a.tree.ids

/-- it is false for a table like the generated one (`copyDeep = false`, `copyLevel1 = false`: `mk_copy` is
    `copy.copy(self)`): the copy holds the very member objects of its source (known finding `copy-shares-*` in
    known_findings/C12.json; the behaviour is pinned by tests/test_statecontainers.py, test_descriptorcontainers.py) -/
theorem copies_independent_full_fails : ¬ copies_independent_full := by
  intro h
  have := h (exT .copyDefault) exD [.construct 1] 0
    ⟨1, 0, .obj 2 [.obj 3 [.imm 7], .obj 4 []]⟩ ⟨1, 0, .obj 5 [.obj 3 [.imm 7], .obj 4 []]⟩ (by decide) (by decide +kernel) (by decide +kernel)
  exact this 3 (by decide) (by decide)

/-- the part that holds (`_partial`): copies are independent where the table records a deep copy (`deep_copy_independent`,
    `deep_update_keeps_groups`), and in every case a copy can only share with instances of its own group -/
theorem copies_independent_partial (T : Table) (hT : tableOK T = true) (D : List Tree) (ops : List Op) (i j : Nat)
    (a b : Inst) (hi : (run T (init D) ops).insts[i]? = some a) (hj : (run T (init D) ops).insts[j]? = some b)
    (hg : a.grp ≠ b.grp) : Disjoint a.tree.ids b.tree.ids :=
  instances_disjoint T hT D ops i j a b hi hj hg

/-- the generated table: every container class makes at least first-level copies in `update_from_other_container`
    (part of `tableOK`, so a change that hands members over by reference breaks `generated_table_ok`) -/
theorem generated_update_level1 :
    (Generated.CopyTable.copyTable.all fun c => !c.isContainer || c.updLevel1) = true :=
  List.all_eq_true.mpr fun c hc => by
    have := List.all_eq_true.mp generated_table_ok c hc
    simp only [ClsE.ok, Bool.and_eq_true] at this
    exact this.2

end Sdc.C12
