import SdcModel.RequestFlow
import SdcModel.Http
import SdcModel.Proofs.Http
import SdcModel.Proofs.RequestFlow
import SdcModel.Generated.Parsers
/-!
# C13 — request handling is total: any input gets a response; no hang, crash or XXE
Property theorems only. Model: `SdcModel/RequestFlow.lean` (exception skeleton of `do_post`/`do_get`/`do_POST`/`do_GET`),
`SdcModel/Http.lean` (body readers); parser construction sites: `Generated/Parsers.lean` (recorded from the running code).
Partial by nature: libxml2, schema validation and the handler bodies are parameters (stage outcomes), not models.
-/
namespace Sdc.C13
open Sdc.RequestFlow

/-! ### the middleware: `MessageConverterMiddleware.do_post` -/

/-- if building the fault reply does not raise, `do_post` returns (status, reason, body) whatever the reader, the
    validator, the dispatcher, the handler and the serialiser of the regular answer do -/
theorem doPost_total_partial {σ : Type} (e : PostEnv σ) (h : e.FaultPathOk) (s : σ) : ∃ r, (doPost e s).1 = .ok r := by
  obtain ⟨⟨u1, h1⟩, ⟨b1, h2⟩, ⟨u2, h3⟩, ⟨u3, h4⟩, ⟨b2, h5⟩⟩ := h
  rcases doPost_spec e s with ⟨x, _, _, ⟨y, _, hy | hy⟩ | ⟨b, hr, _⟩⟩ | ⟨u, _, ⟨u', b, _, _, hr⟩ | ⟨x, hr⟩⟩
  · rw [h1] at hy; cases hy
  · rw [h2] at hy; cases hy
  · exact ⟨_, hr⟩
  · exact ⟨_, hr⟩
  · rcases replyFor_spec e x with ⟨y, _, hy | hy | hy⟩ | ⟨b, hb, _⟩
    · rw [h3] at hy; cases hy
    · rw [h4] at hy; cases hy
    · rw [h5] at hy; cases hy
    · exact ⟨_, hr.trans hb⟩

/-- full strength (no hypothesis) is false for `do_post` taken alone: the reply is built outside any `try` -/
def doPost_total_full : Prop := ∀ (σ : Type) (e : PostEnv σ) (s : σ), ∃ r, (doPost e s).1 = .ok r

/-- negative witness: the request is unreadable *and* serialising the fault raises — the exception leaves `do_post`
    (replayed on the implementation by the harness; `do_POST` turns it into a 500, see `doPOST_total`) -/
theorem doPost_total_full_fails : ¬ doPost_total_full := by
  intro h
  obtain ⟨r, hr⟩ := h Unit ⟨.error (.other 1), .ok (), .error (.other 2), fun s => (.ok (), s), .ok 0, .ok (), .ok (), .ok 0⟩ ()
  cases hr

/-- exactly which exceptions can leave `do_post`: only those of the five reply-building calls -/
theorem doPost_escape_only_from_reply {σ : Type} (e : PostEnv σ) (s : σ) (y : Exc) (h : (doPost e s).1 = .error y) :
    e.mkFaultMsg = .error y ∨ e.serFault = .error y ∨ e.read2 = .error y ∨ e.mkReply = .error y ∨ e.serReply = .error y := by
  rcases doPost_spec e s with ⟨x, _, _, ⟨y', hr, hy⟩ | ⟨b, hr, _⟩⟩ | ⟨u, _, ⟨u', b, _, _, hr⟩ | ⟨x, hr⟩⟩
  · rw [hr] at h; injection h with h
    rw [← h]; exact hy.elim .inl (.inr ∘ .inl)
  · rw [hr] at h; cases h
  · rw [hr] at h; cases h
  · rw [hr] at h
    rcases replyFor_spec e x with ⟨y', hr', hy⟩ | ⟨b, hb, _⟩
    · rw [hr'] at h; injection h with h
      rw [← h]; exact .inr (.inr hy)
    · rw [hb] at h; cases h

/-- a request that is rejected before dispatch (not well-formed, not schema-valid, …) never reaches a handler:
    MDIB and subscription table are what they were -/
theorem rejected_noop {σ : Type} (e : PostEnv σ) (s : σ) (x : Exc) (h : e.read1 = .error x) : (doPost e s).2 = s := by
  rcases doPost_spec e s with ⟨_, _, hs, _⟩ | ⟨u, hu, _⟩
  · exact hs
  · rw [h] at hu; cases hu

/-- … and it is answered with the status / reason of the rejection and a fault body, never with a regular response -/
theorem rejected_answer {σ : Type} (e : PostEnv σ) (s : σ) (x : Exc) (r : Response) (h : e.read1 = .error x)
    (hr : (doPost e s).1 = .ok r) : r.status = (statusOf x).1 ∧ r.reason = (statusOf x).2 ∧ ∃ b, r.body = .fault b := by
  rcases doPost_spec e s with ⟨x', hx, _, ⟨y, hr', _⟩ | ⟨b, hr', _⟩⟩ | ⟨u, hu, _⟩
  · rw [hr'] at hr; cases hr
  · rw [h] at hx; injection hx with hx
    rw [hr'] at hr; injection hr with hr
    rw [← hr, hx]; exact ⟨rfl, rfl, b, rfl⟩
  · rw [h] at hu; cases hu

/-- a regular response (200 / 'Ok' / the dispatcher's answer) is given only if every stage succeeded -/
theorem response_only_if_all_ok {σ : Type} (e : PostEnv σ) (s : σ) (r : Response) (b : Nat)
    (hr : (doPost e s).1 = .ok r) (hb : r.body = .response b) :
    r.status = 200 ∧ r.reason = .ok ∧ (∃ u, e.read1 = .ok u) ∧ (∃ u, (e.dispatch s).1 = .ok u) ∧ e.serResp = .ok b := by
  rcases doPost_spec e s with ⟨x, _, _, ⟨y, hr', _⟩ | ⟨b', hr', _⟩⟩ | ⟨u, hu, ⟨u', b', hd, hs, hr'⟩ | ⟨x, hr'⟩⟩
  · rw [hr'] at hr; cases hr
  · rw [hr'] at hr; injection hr with hr
    rw [← hr] at hb; cases hb
  · rw [hr'] at hr; injection hr with hr
    rw [← hr] at hb ⊢; injection hb with hb
    exact ⟨rfl, rfl, ⟨u, hu⟩, ⟨u', hd⟩, hb ▸ hs⟩
  · rw [hr'] at hr
    rcases replyFor_spec e x with ⟨y, hy, _⟩ | ⟨b', hb', _⟩
    · rw [hy] at hr; cases hr
    · rw [hb'] at hr; injection hr with hr
      rw [← hr] at hb; cases hb

/-! ### the HTTP handler: `DispatchingRequestHandler.do_POST / do_GET` -/

/-- `do_POST` always answers: no exception class of any stage — body reader, path lookup, `do_post` itself (including
    the escapes of `doPost_total_full_fails`) — reaches the server loop. No hypothesis. -/
theorem doPOST_total {σ : Type} (e : HandlerEnv σ) (s : σ) : ∃ o, (doPOST e s).1 = .ok o :=
  RequestFlow.doPOST_total e s

theorem doGET_total {σ : Type} (e : HandlerEnv σ) : ∃ o, doGET e = .ok o := by
  unfold doGET
  cases e.hasDispatcher with
  | false => exact ⟨_, rfl⟩
  | true =>
    simp only [Bool.not_true, Bool.false_eq_true, if_false]
    cases e.lookup with
    | error x => cases x <;> exact ⟨_, rfl⟩
    | ok u => simp only; cases e.get <;> exact ⟨_, rfl⟩

/-- middleware and handler composed: every outcome of every stage ends in an HTTP answer -/
theorem request_total {σ : Type} (readBody : Stage Unit) (hasDisp : Bool) (lookup : Stage Unit) (p : PostEnv σ) (g : GetEnv) (s : σ) :
    (∃ o, (doPOST ⟨readBody, hasDisp, lookup, doPost p, doGet g⟩ s).1 = .ok o) ∧
    (∃ o, doGET (σ := σ) ⟨readBody, hasDisp, lookup, doPost p, doGet g⟩ = .ok o) :=
  ⟨doPOST_total _ s, doGET_total _⟩

/-- a request rejected by the handler (unreadable body, no dispatcher, unknown path) changes nothing -/
theorem rejected_noop_handler {σ : Type} (e : HandlerEnv σ) (s : σ)
    (h : (∃ x, e.readBody = .error x) ∨ e.hasDispatcher = false ∨ (∃ x, e.lookup = .error x)) : (doPOST e s).2 = s := by
  rcases doPOST_spec e s with ⟨_, _, hp, _⟩ | ⟨⟨u, hb⟩, hd, ⟨u', hl⟩, _⟩
  · rw [hp]
  · rcases h with ⟨x, hx⟩ | hx | ⟨x, hx⟩
    · rw [hb] at hx; cases hx
    · rw [hd] at hx; cases hx
    · rw [hl] at hx; cases hx

/-- a request with unreadable framing ends the connection: it is answered 400, nothing that follows on the connection is
    executed and the state is untouched — whatever bytes (e.g. a complete valid Subscribe request) come behind it -/
theorem framing_error_ends_connection {σ : Type} (e : HandlerEnv σ) (rest : List (HandlerEnv σ)) (s : σ) (x : Exc)
    (h : e.readBody = .error x) : serveConn (e :: rest) s = ([.plain 400 .exception], s) :=
  serveConn_of_readBody_error h rest s

/-- on a connection every request up to the first unreadable one is answered -/
theorem serveConn_answers_first {σ : Type} (e : HandlerEnv σ) (rest : List (HandlerEnv σ)) (s : σ) :
    ∃ o os, (serveConn (e :: rest) s).1 = o :: os := by
  obtain ⟨o, ho⟩ := doPOST_total e s
  rw [serveConn]
  cases hd : doPOST e s with
  | mk res s' =>
    rw [hd] at ho
    dsimp only at ho ⊢
    rw [ho]
    dsimp only
    cases e.readBody with
    | error x => exact ⟨_, _, rfl⟩
    | ok u => cases e.hasDispatcher <;> exact ⟨_, _, rfl⟩

/-- the component is only called when body, dispatcher and path were fine; its answer is passed on unchanged -/
theorem soap_answer_is_components {σ : Type} (e : HandlerEnv σ) (s : σ) (r : Response) (h : (doPOST e s).1 = .ok (.soap r)) :
    (e.post s).1 = .ok r := by
  rcases doPOST_spec e s with ⟨_, _, hp, _⟩ | ⟨_, _, _, ⟨r', hr, hp⟩ | ⟨_, _, hp⟩⟩
  · rw [hp] at h; cases h
  · rw [hp] at h; injection h with h; injection h with h
    rw [← h]; exact hr
  · rw [hp] at h; cases h

/-- `do_get` of the middleware answers unless `urlparse(path)` raises (then `do_GET` answers 500, `doGET_total`) -/
theorem doGet_total (e : GetEnv) (u : Unit) (h : e.parse = .ok u) : ∃ o, doGet e = .ok o := by
  unfold doGet; rw [h]; cases e.handle <;> exact ⟨_, rfl⟩

/-! ### deferred dispatch of the consumer endpoint: the worker survives every handler exception -/

/-- the worker thread never leaves its loop, whatever the handlers raise and in whatever order requests arrive -/
theorem worker_survives (cap : Nat) (s : DState) (ops : List DOp) (h : s.alive = true) : (drun cap s ops).alive = true :=
  (drun_alive cap s ops).trans h

/-- every queued request is handed to its handler, in order, whatever earlier handlers raised:
    after as many worker passes as there are queued items the queue is empty and all of them were handled -/
theorem every_item_handled (cap : Nat) (s : DState) (h : s.alive = true) :
    drun cap s (List.replicate s.queue.length .work) = ⟨[], s.handled ++ s.queue.map (·.id), true⟩ := by
  obtain ⟨q, hd, al⟩ := s
  simp only at h
  subst h
  induction q generalizing hd with
  | nil => simp [drun]
  | cons it r ih =>
    simp only [List.length_cons, List.replicate_succ, drun, dstep, if_true]
    rw [ih]
    simp

/-- `on_post` can only block on a full queue, and a living worker frees a slot with its next pass: no deadlock -/
theorem full_queue_drains (cap : Nat) (hc : 0 < cap) (s : DState) (it : Item) (h : s.alive = true)
    (hinv : s.queue.length ≤ cap) (hb : (dstep cap s (.post it)).2 = true) : (dstep cap (dstep cap s .work).1 (.post it)).2 = false := by
  cases hq : s.queue with
  | nil => simp only [dstep, hq, List.length_nil, hc, if_true, Bool.false_eq_true] at hb
  | cons x r =>
    have hr : r.length < cap := by rw [hq] at hinv; exact hinv
    simp only [dstep, h, hq, hr, if_true]

/-- a request whose handler raises is answered like any other (the answer was given before the handler ran) and does not
    change what happens to the requests behind it -/
theorem failing_handler_is_local (cap : Nat) (s : DState) (a b : Item) (x : Exc) (h : s.alive = true) (hq : s.queue = []) (hc : 2 ≤ cap) :
    (drun cap s [.post ⟨a.id, .error x⟩, .post b, .work, .work]).handled = s.handled ++ [a.id, b.id] := by
  obtain ⟨q, hd, al⟩ := s
  simp only at h hq
  subst h hq
  have h1 : (0 : Nat) < cap := by omega
  have h2 : (1 : Nat) < cap := by omega
  simp [drun, dstep, h1, h2]

/-! ### delayed operations: a full operation queue is answered, not waited for -/

/-- every request of a burst gets an answer, however many arrive while the handler of an earlier one is still running -/
theorem burst_all_answered (cap queued n : Nat) : (opBurst cap queued n).length = n := by
  induction n generalizing queued with
  | zero => rfl
  | succ n ih => exact congrArg Nat.succ (ih _)

/-- … Wait while there is room, Fail from then on; the queue never grows beyond its capacity -/
theorem burst_answers (cap queued n : Nat) (h : queued ≤ cap) :
    opBurst cap queued n = List.replicate (min n (cap - queued)) .wait ++ List.replicate (n - (cap - queued)) .failed :=
  opBurst_eq cap queued n (cap - queued) (Nat.add_sub_of_le h)

/-- the chunked reader returns a body or DechunkError for every byte string; the loop bound is never hit -/
theorem reader_dechunk_total (w : Nat) (s : Http.Bytes) :
    (∃ body rest, Http.dechunk w s = .ok (body, rest)) ∨ Http.dechunk w s = .error .dechunk :=
  (Http.dechunk_spec w s).imp_left fun ⟨body, rest, h, _⟩ => ⟨body, rest, h⟩

/-- whatever `read_request_body` makes of headers and bytes — a body or one of its exception classes — the handler answers -/
theorem any_body_answered {σ : Type} (w : Nat) (r : Http.Registry) (sup : List Http.Str) (h : Http.Hdrs) (wire : Http.Bytes)
    (classify : Http.Err → Exc) (hasDisp : Bool) (lookup : Stage Unit) (post : σ → Stage Response × σ) (s : σ) :
    ∃ o, (doPOST ⟨(match Http.readRequestBody w r sup h wire with | .ok _ => .ok () | .error e => .error (classify e)),
                   hasDisp, lookup, post, .ok .error⟩ s).1 = .ok o :=
  doPOST_total _ s

/-- every parser construction site that was observed parsing peer data has entity resolution, network access and DTD
    loading switched off; no site at all may access the network; at least the request reader is in the table -/
theorem entity_policy :
    (∀ p ∈ Generated.Parsers.sites, p.network = true → p.safe = true) ∧
    (∀ p ∈ Generated.Parsers.sites, p.noNetwork = true) ∧
    (∃ p ∈ Generated.Parsers.sites, p.network = true ∧ p.site = "sdc11073.pysoap.msgreader:read_received_message") := by
  decide +kernel

/-! ### non-vacuity -/

/-- an environment satisfying `FaultPathOk` in which the request is rejected by validation -/
example : (doPost (σ := Nat) ⟨.error (.http 400 7), .ok (), .ok 3, fun n => (.ok (), n + 1), .ok 0, .ok (), .ok (), .ok 0⟩ 5)
    = (.ok ⟨400, .ofExc 7, .fault 3⟩, 5) := by decide +kernel

/-- handler raises a generic exception after it changed the state: 500 with a reply built from the request -/
example : (doPost (σ := Nat) ⟨.ok (), .ok (), .ok 3, fun n => (.error (.other 9), n + 1), .ok 0, .ok (), .ok (), .ok 4⟩ 5)
    = (.ok ⟨500, .exception, .reply 4⟩, 6) := by decide +kernel

/-- truncated chunked body: the reader raises, the handler answers 400 and the state is untouched -/
example : Http.dechunk 16 [53, 13, 10, 97, 98] = .error .dechunk ∧
    (doPOST (σ := Nat) ⟨.error (.other 1), true, .ok (), fun n => (.ok ⟨200, .ok, .response 0⟩, n + 1), .ok .error⟩ 5)
      = (.ok (.plain 400 .exception), 5) := by decide +kernel

/-- the history of seeded defect class "worker dies": handler of request 1 raises, request 2 is still handled -/
example : (drun 1000 ⟨[], [], true⟩ [.post ⟨1, .error (.other 7)⟩, .post ⟨2, .ok ()⟩, .work, .work]).handled = [1, 2] := by decide +kernel

end Sdc.C13
