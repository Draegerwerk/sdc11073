import SdcModel.UdpRepeat
import SdcModel.Proofs.UdpRepeat
import SdcModel.Generated.UdpParams
import SdcModel.UdpSendLoop
import SdcModel.Proofs.UdpSendLoop
/-!
# C15 — discovery datagrams are retransmitted within the SOAP-over-UDP time envelope
Property theorems only. Model: `SdcModel/UdpRepeat.lean`; parameter sets: `Generated/UdpParams.lean`
(regenerated from `networkingthread.UNICAST_REPEAT_PARAMS / MULTICAST_REPEAT_PARAMS` on every run).
-/
namespace Sdc.C15
open Sdc.UdpRepeat

/-- exactly `1 + repeat` transmissions, for every parameter set and every outcome of the two draws -/
theorem transmissions_count (p : Params) (init d : Nat) :
    (schedule p init d).length = 1 + p.repeats :=
  schedule_length p init d

/-- the first transmission is delayed by the drawn initial delay, which `randint(0, maxInit)` bounds -/
theorem first_delay (p : Params) (init d : Nat) (h : init ≤ p.maxInit) :
    ∃ t, (schedule p init d)[0]? = some t ∧ t ≤ p.maxInit :=
  ⟨init, times_head init _, h⟩

/-- the first gap is the drawn value, which `randrange(min, max)` puts inside the window -/
theorem first_gap (p : Params) (init d : Nat) (hr : 0 < p.repeats)
    (hd : p.minDelay ≤ d ∧ d < p.maxDelay) :
    ∃ g, gap (schedule p init d) 0 = some g ∧ p.minDelay ≤ g ∧ g < p.maxDelay :=
  ⟨d, (gap_times init _ 0).trans (gaps_get_zero _ _ _ hr), hd⟩

/-- every following gap is twice the previous one, capped by the upper delay -/
theorem next_gap (p : Params) (init d i g : Nat) (hi : i + 1 < p.repeats)
    (hg : gap (schedule p init d) i = some g) :
    gap (schedule p init d) (i + 1) = some (min (2 * g) p.upper) := by
  rw [schedule, gap_times] at hg ⊢
  exact gaps_get_succ _ _ _ _ _ hg hi

/-- ... and therefore never larger than the configured upper delay -/
theorem later_gaps_capped (p : Params) (init d i g : Nat) (hi : i + 1 < p.repeats)
    (hg : gap (schedule p init d) (i + 1) = some g) : g ≤ p.upper := by
  have hlt : i < (gaps p.upper d p.repeats).length := by rw [gaps_length]; exact Nat.lt_of_succ_lt hi
  rw [schedule, gap_times, gaps_get_succ _ _ _ _ _ (List.getElem?_eq_getElem hlt) hi] at hg
  cases hg
  exact Nat.min_le_right _ _

/-- the generated parameter sets admit the random draws (`randrange` range non-empty) and repeat at least once -/
theorem generated_params_wf :
    Generated.unicast.WF ∧ Generated.multicast.WF ∧ 0 < Generated.unicast.repeats ∧ 0 < Generated.multicast.repeats := by
  decide

/-- the first-gap window of the generated parameter sets lies below the cap, so *every* gap is ≤ upper -/
theorem generated_window_below_cap :
    Generated.unicast.maxDelay ≤ Generated.unicast.upper + 1 ∧ Generated.multicast.maxDelay ≤ Generated.multicast.upper + 1 := by
  decide

/-- after `add_outbound_message` registered the own id, and while fewer than `maxlen` further ids were
    remembered, a looped-back datagram with that id is not dispatched -/
theorem own_message_ignored (maxlen : Nat) (id : String) (known : List String) (evs : List Ev)
    (h : 1 + evs.length ≤ maxlen) :
    (step maxlen (run maxlen (step maxlen known (.out id)).1 evs) (.recv id)).2 = false :=
  congrArg Prod.snd (step_recv_of_mem (run_push_keeps maxlen id known evs h))

/-- the window of the tree at hand is not smaller than the one the guarantee was stated for (200 ids on the pinned tree):
    `own_message_ignored` then covers every loop-back that has fewer than 200 other ids between registration and arrival -/
theorem generated_window_at_least_pinned : 200 ≤ Generated.knownIdsMaxlen := by decide

/-- a received id is dispatched at most once while it stays in the window: directly after a dispatch it is known -/
theorem dispatched_then_known (maxlen : Nat) (id : String) (known : List String) (h : 0 < maxlen)
    (hd : (step maxlen known (.recv id)).2 = true) : id ∈ (step maxlen known (.recv id)).1 := by
  by_cases hk : id ∈ known
  · rw [step_recv_of_mem hk] at hd
    cases hd
  · rw [step_recv_of_not_mem hk]
    apply List.mem_of_mem_take (i := 1)
    rw [take_one_push id known h]
    exact List.mem_singleton_self id

/-- `add_outbound_message` registers the own id BEFORE the first entry is put on the send queue (program order traced on the
    real method): nothing can be transmitted - and looped back - while the id is still unknown, so `own_message_ignored`
    applies to every loop-back of an own datagram -/
theorem generated_registers_before_enqueue :
    Generated.addOutboundOrder.head? = some "register" ∧ "put" ∈ Generated.addOutboundOrder :=
  ⟨rfl, .tail _ (.head _)⟩

/-- the draws are asked for in the configured ranges: `randint(0, max_initial_delay)` and `randrange(min_delay, max_delay)` of
    the parameter set at hand (traced on the real `_repeated_enqueue_msg`), so the hypotheses of `first_delay` / `first_gap` hold for
    whatever the random source returns -/
theorem generated_draw_ranges :
    Generated.drawRanges =
      [(false, "randint", 0, Generated.unicast.maxInit), (false, "randrange", Generated.unicast.minDelay, Generated.unicast.maxDelay),
       (true, "randint", 0, Generated.multicast.maxInit), (true, "randrange", Generated.multicast.minDelay, Generated.multicast.maxDelay)] :=
  rfl

/-- `join` waits for the send loop without a time limit before anything is closed (program order traced on the real method):
    together with `loop_ends_with_everything_sent` nothing that was queued at the stop is cut off -/
theorem generated_join_waits_for_send_loop :
    (Generated.joinTrace.takeWhile (fun s => s.1 == "join")).contains ("join", "send None") = true := by decide

/-- life cycle: whatever sequence of `start` / `stop` / `publish_service` / `clear_service` calls is made on a node, every Hello
    and Bye is handed to a RUNNING networking thread (which transmits it 1 + repeat times) - never to one that was stopped
    before and would drop it -/
theorem messages_reach_a_running_thread (ops : List Sdc.UdpLife.Op) :
    ∀ r ∈ Sdc.UdpLife.run {} ops, ∀ l, r = some l → ∀ b ∈ l, b = true :=
  Sdc.UdpLife.run_hands {} ops Sdc.UdpLife.ok_init

example : Sdc.UdpLife.run {} [.start, .publish 1, .stop, .start, .publish 2, .stop] =
    [some [], some [true], some [true], some [], some [true], some [true]] := rfl

/-- non-vacuity: the multicast set with a concrete draw -/
example : schedule Generated.multicast 17 120 = [17, 137, 377, 857, 1357] := rfl

example : gap (schedule Generated.multicast 17 120) 3 = some 500 := rfl

/-! ### the transmissions follow the schedule (send loop, `UdpSendLoop.lean`)

The theorems above are about the `send_time`s put on the queue. The send loop turns them into transmissions; for every set
of `add_outbound_message` calls at any times, with any draws and parameter sets, any time of `schedule_stop` and any number
of loop iterations: -/
open Sdc.UdpSendLoop

/-- the loop's two sleeps, regenerated from `SEND_LOOP_BUSY_SLEEP` / `SEND_LOOP_IDLE_SLEEP` -/
theorem generated_loop_cfg_ok : Generated.loopCfg.busy ≤ Generated.loopCfg.idle ∧ 0 < Generated.loopCfg.busy := by decide

/-- the queue is ordered by the send time first (regenerated from the compared fields of `_EnqueuedMessage`) -/
theorem generated_queue_key : Generated.queueKey = ["send_time", "repeat"] := rfl

/-- no datagram leaves before its scheduled time - not even when the node is being stopped - and none later than one
    (idle) sleep of the loop after it -/
theorem transmissions_on_time (c : Cfg) (hc : c.busy ≤ c.idle) (hi : 0 < c.idle) (adds : List Add) (quitAt n : Nat) :
    ∀ x ∈ (run c n (start adds quitAt)).1.out, x.2.sendTime ≤ x.1 ∧ x.1 < x.2.sendTime + c.idle :=
  (run_inv hc n (start_inv hi adds quitAt)).outOk

/-- every entry of every accepted call (made before the stop) is transmitted exactly as often as it was enqueued, at the
    latest one idle sleep after its time: once the clock is there, it is among the transmissions and nowhere else -/
theorem transmitted_once_by_deadline (c : Cfg) (hc : c.busy ≤ c.idle) (hi : 0 < c.idle) (adds : List Add) (quitAt n : Nat)
    (e : Entry) (hd : e.sendTime + c.idle ≤ (run c n (start adds quitAt)).1.now) :
    ((run c n (start adds quitAt)).1.out.map (·.2)).count e = (future quitAt adds).count e := by
  have hcount := ((run_total (c := c) n _).trans (total_start adds quitAt)).count_eq e
  rw [total, List.count_append,
    List.count_eq_zero_of_not_mem (overdue_not_waiting (run_inv hc n (start_inv hi adds quitAt)) hd)] at hcount
  exact hcount

/-- a loop that has ended (after `schedule_stop`) has transmitted exactly the entries of all accepted calls: nothing
    that was pending at the stop is lost, nothing is sent twice -/
theorem stop_loses_nothing (c : Cfg) (hc : c.busy ≤ c.idle) (hi : 0 < c.idle) (adds : List Add) (quitAt n : Nat)
    (h : (run c n (start adds quitAt)).2 = true) :
    ((run c n (start adds quitAt)).1.out.map (·.2)).Perm (future quitAt adds) := by
  obtain ⟨hq, hquit⟩ := run_done n (start adds quitAt) h
  have hperm := (run_total (c := c) n _).trans (total_start adds quitAt)
  rw [total, waiting_of_done (run_inv hc n (start_inv hi adds quitAt)) hq hquit, List.append_nil] at hperm
  exact hperm

/-- ... and the loop does end: whatever was called and whenever the stop comes, after finitely many iterations (a bound is
    given explicitly) the loop has left and every entry of every accepted call has been transmitted exactly once -/
theorem loop_ends_with_everything_sent (c : Cfg) (hb : 0 < c.busy) (hc : c.busy ≤ c.idle) (adds : List Add) (quitAt n : Nat)
    (hn : mu (lastTime quitAt adds) (start adds quitAt) < n) :
    (run c n (start adds quitAt)).2 = true ∧ ((run c n (start adds quitAt)).1.out.map (·.2)).Perm (future quitAt adds) := by
  have hdone := run_terminates hb hc n (start_bounded adds quitAt) hn
  exact ⟨hdone, stop_loses_nothing c hc (Nat.lt_of_lt_of_le hb hc) adds quitAt n hdone⟩

/-- non-vacuity: two overlapping multicast messages, stop while the second is still pending -/
example : (run Generated.loopCfg 400
    (start [⟨250, 0, Generated.multicast, 150, 70⟩, ⟨250, 1, Generated.multicast, 500, 249⟩] 700500)).2 = true := by decide +kernel

/-- each accepted call contributes `1 + repeat` entries -/
theorem entries_per_message (a : Add) : (entriesOf a).length = 1 + a.p.repeats := entriesOf_length a

/-- every sender of `WSDiscovery` hands its message to the networking thread with the parameter set of its destination
    (multicast address -> multicast set, otherwise unicast); regenerated by calling every `_send_*` of the real class -/
theorem generated_senders_params :
    ∀ s ∈ Generated.senders, s.2.2 = (if s.2.1 then Generated.multicast else Generated.unicast) := by decide

example : Generated.senders.length = 6 := by decide

end Sdc.C15
