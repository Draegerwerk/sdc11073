import SdcModel.MdibDescr
import SdcModel.Proofs.MdibSC
import SdcModel.Proofs.MdibHist
import SdcModel.Generated.HandOuts
/-! # C03 — transactions are atomic (property theorems over the provider model)
A transaction that does not commit (application raised, API call rejected, consistency check failed) returns exactly the
tables it started from and an empty result; a commit over well-formed tables cannot die half-way. -/
set_option linter.unusedSimpArgs false
namespace Sdc.C03
open Sdc.Mdib

/-- an aborted state transaction (application raises) leaves the tables as they were and reports nothing -/
theorem abort_noop_state (t : Tables) (s : SScript) (h : s.raiseAtEnd = true) :
    (runS t s).1 = t ∧ (runS t s).2.1 = {} :=
  runS_cases (P := fun r => r.1 = t ∧ r.2.1 = {}) ⟨rfl, rfl⟩ (fun _ => ⟨rfl, rfl⟩) (fun _ _ _ hr => nomatch h.symm.trans hr)
    (fun _ _ hr => nomatch h.symm.trans hr)

theorem abort_noop_context (t : Tables) (s : CScript) (h : s.raiseAtEnd = true) :
    (runC t s).1 = t ∧ (runC t s).2.1 = {} :=
  runC_cases (P := fun r => r.1 = t ∧ r.2.1 = {}) ⟨rfl, rfl⟩ (fun _ => ⟨rfl, rfl⟩) (fun _ _ _ hr => nomatch h.symm.trans hr)
    (fun _ _ hr => nomatch h.symm.trans hr)

theorem abort_noop_descriptor (t : Tables) (s : DScript) (h : s.raiseAtEnd = true) :
    (runD t s).1 = t ∧ (runD t s).2.1 = {} :=
  runD_cases (P := fun r => r.1 = t ∧ r.2.1 = {}) ⟨rfl, rfl⟩ (fun _ => ⟨rfl, rfl⟩) (fun _ _ _ hr => nomatch h.symm.trans hr)
    (fun _ _ hr => nomatch h.symm.trans hr)

/-- outcome `aborted` / `rejected` (a call the API rejected propagated out of the block) ⇒ tables equal, nothing reported -/
theorem rejected_noop_state (t : Tables) (s : SScript) (h : (runS t s).2.2 = .rejected ∨ (runS t s).2.2 = .aborted) :
    (runS t s).1 = t ∧ (runS t s).2.1 = {} :=
  (runScript_outcome t (.s s)).2 (h.elim (fun h => .inr (.inr h)) (fun h => .inr (.inl h)))

theorem rejected_noop_context (t : Tables) (s : CScript) (h : (runC t s).2.2 = .rejected ∨ (runC t s).2.2 = .aborted) :
    (runC t s).1 = t ∧ (runC t s).2.1 = {} :=
  (runScript_outcome t (.c s)).2 (h.elim (fun h => .inr (.inr h)) (fun h => .inr (.inl h)))

theorem rejected_noop_descriptor (t : Tables) (s : DScript) (h : (runD t s).2.2 = .rejected ∨ (runD t s).2.2 = .aborted) :
    (runD t s).1 = t ∧ (runD t s).2.1 = {} :=
  (runScript_outcome t (.d s)).2 (h.elim (fun h => .inr (.inr h)) (fun h => .inr (.inl h)))

/-- a descriptor commit refused by the consistency check has changed nothing (the check runs before the first write) -/
theorem commit_rejected_noop (t : Tables) (tx : DTx) (h : consistentD t tx = false) :
    (commitD t tx).1 = t ∧ (commitD t tx).2.1 = {} := by
  unfold commitD
  split
  · simp
  · simp [h]

/-- a state transaction over well-formed tables never dies in the middle of its commit -/
theorem commit_never_fails (t : Tables) (s : SScript) (hw : WF t) : (runS t s).2.2 ≠ .commitFailed := (runS_ok hw s).1

/-- a context transaction over well-formed tables never dies in the middle of its commit, provided the handles generated
    for new context states are fresh (not the handle of a live context state) -/
theorem commit_never_fails_context (t : Tables) (s : CScript) (hw : WF t) (hf : FreshUuids t s) :
    (runC t s).2.2 ≠ .commitFailed := runC_ok hw s hf

/-- the hypothesis is needed: a colliding generated handle kills the commit after MdibVersion was incremented -/
theorem commit_fails_on_uuid_collision :
    ∃ (t : Tables) (s : CScript), WF t ∧ (runC t s).2.2 = .commitFailed ∧ (runC t s).1 ≠ t :=
  ⟨{ ver := 1, descrs := [⟨4, none, .context, 0, 0, some 4⟩],
     ctx := [{ h := 10, dh := 4, dv := 0, sv := 2, body := 0, assoc := .no, bindV := none, unbindV := none, bindT := none, unbindT := none }] },
   ⟨[.mk 4 10 false false 8 0], false, false⟩, by decide⟩

/-- a descriptor transaction over well-formed tables (`KOK`: kind discipline, `DScriptOK`: well-formed entities for
    `write_entity`) never dies half-way: the only commit-time failure is the consistency check, which runs before the
    first write -/
theorem commit_never_fails_descriptor_partial (t : Tables) (s : DScript) (hw : WF t) (hk : KOK t) (hs : DScriptOK t s)
    (hf : (runD t s).2.2 = .commitFailed) : (runD t s).1 = t ∧ (runD t s).2.1 = {} := by
  refine ⟨(runD_ok hw hk s hs).1 hf, ?_⟩
  refine runD_elim (P := fun r => r.2.2 = .commitFailed → r.2.1 = {}) nofun nofun (fun _ _ _ _ _ => rfl) (fun tx _ _ h => ?_) hf
  dsimp only at h; split at h <;> cases h

/-- all seven kinds: a transaction that does not end `committed` has changed nothing -/
theorem transaction_all_or_nothing (t : Tables) (sc : Script) (hw : WF t) (hk : KOK t) (h : StepOK true t sc)
    (hn : (runScript t sc).2.2 ≠ .committed) : (runScript t sc).1 = t := by
  by_cases hf : (runScript t sc).2.2 = .commitFailed
  · exact runScript_atomic hw hk sc h hf
  · apply runScript_unchanged
    revert hn hf
    cases (runScript t sc).2.2 <;> simp

/-- Isolation, tie to the source: for every hand-out route of the real provider MDIB (transaction getters of all kinds,
    entity getters, transaction results, the object kept by the application after a commit) and one object of every state /
    descriptor class of the bundled MDIBs, the handed-out object shares NO mutable object (found with `is` at any nesting
    depth) with the object stored in the MDIB. The table is regenerated from the running code on every run. -/
theorem generated_handouts_private : ∀ h ∈ Generated.handOuts, h.2.2 = 0 := by decide +kernel

/-- the table is not empty: all routes were observed -/
theorem generated_handouts_cover_routes :
    ["get_state", "get_descriptor", "descriptor_tx.get_state", "entities.by_handle.state", "entities.by_handle.descriptor",
     "result_vs_table", "result_vs_handed_out", "handed_out_vs_table_after_commit", "get_context_state_after_commit",
     "context_result_vs_table", "entities.by_handle.states", "entities.by_node_type.states",
     "entities.by_parent_handle.states", "entities.items.states", "entity.update.states", "entity.update.state", "mdib.get_entity", "mdib.get_context_entity"].all (fun r => Generated.handOuts.any (fun h => h.1 == r)) = true := by decide +kernel

/-! ### known finding: a failure of the observers that send the reports is not rolled back
`_transaction_manager` assigns `self.transaction = result` (observers serialise and send the reports) after
`process_transaction` has applied the transaction. -/

/-- the transaction manager with an observer that may raise while sending: the exception reaches the application
    (`none` result), the tables are the committed ones -/
def runWithObserver (t : Tables) (sc : Script) (observerRaises : Bool) : Tables × Bool :=
  let r := runScript t sc
  (r.1, observerRaises && r.2.2 == .committed)

/-- the full statement "a failing commit leaves the MDIB as it was" including failures while the reports are sent -/
def C03_atomic_with_observers_full : Prop :=
  ∀ (t : Tables) (sc : Script), (runWithObserver t sc true).2 = true → (runWithObserver t sc true).1 = t

/-- it is false of the code (known finding `commit-failed-in-report-serialisation-changed-mdib`; witness replayed on the
    implementation by the harness): any committing script changes the version although the application sees an exception -/
theorem C03_atomic_with_observers_full_fails : ¬ C03_atomic_with_observers_full := by
  intro h
  have := h { descrs := [⟨1, none, .metric, 0, 0, some 1⟩], states := [⟨1, 0, 0, .metric, 0⟩] }
    (.s { kind := .metric, calls := [.get 1] }) (by decide)
  revert this
  decide

end Sdc.C03
