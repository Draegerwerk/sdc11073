import SdcModel.Multikey
import SdcModel.Proofs.Multikey
import SdcModel.Generated.IndexDefs
/-!
# C11 — every MDIB lookup always agrees with a scan of the stored objects
Model: `SdcModel/Multikey.lean` (transcription of `sdc11073/multikey.py`, repaired tree); index definitions of the real
tables: `Generated/IndexDefs.lean` (regenerated from the lookup tables of the running code on every run).
`run defs ops`: the table and the attribute values of the objects after any list of operations (`setAttrs`, `add`, `remove`,
`update`, `clear`, plural variants) on an empty table with index definitions `defs`; rejected operations are part of the history.
`snap o`: the key-function results of `o` at its last accepted `add`/`update`; `pending o`: attributes of `o` were written since.
-/
namespace Sdc.C11
open Sdc.Multikey

/-- the invariant, for every list of index definitions and every history -/
theorem consistent_run (defs : List IdxDef) (ops : List Op) : Consistent defs (run defs ops) :=
  foldl_step_consistent defs ops (consistent_empty defs _ _ _)

/-- …spelled out: an index list holds exactly the stored objects whose key set (as of their last (re-)indexing)
contains the key, each with the multiplicity of the key; nothing else -/
theorem index_exact_run (defs : List IdxDef) (ops : List Op) (i : Nat) (k : Key) (o : ObjId) :
    ((run defs ops).tab.idx i k).count o =
      if o ∈ (run defs ops).tab.objs then (keysOf defs i ((run defs ops).snap o)).count k else 0 :=
  (consistent_run defs ops).count_scan i k o

/-- `_object_ids` is exact: an entry for exactly the stored objects, listing exactly their filings -/
theorem refs_exact_run (defs : List IdxDef) (ops : List Op) (o : ObjId) :
    (run defs ops).tab.refs o =
      if o ∈ (run defs ops).tab.objs then some (allKeys defs ((run defs ops).snap o)) else none := by
  have h := consistent_run defs ops
  split
  · rename_i hm; exact h.refs_snap o hm
  · rename_i hm; exact (h.tinv.refs_none o).mpr hm

/-- `_objects` never holds an object twice -/
theorem objs_nodup_run (defs : List IdxDef) (ops : List Op) : (run defs ops).tab.objs.Nodup :=
  (consistent_run defs ops).tinv.objsNodup

/-- a unique index holds at most one object per key -/
theorem unique_index_single (defs : List IdxDef) (ops : List Op) (i : Nat) (k : Key)
    (hu : isUnique defs i = true) : ((run defs ops).tab.idx i k).length ≤ 1 :=
  (consistent_run defs ops).tinv.uniq i k hu

/-- an insertion that raises (duplicate unique key: `KeyError`; list key in a unique index: `ValueError`) leaves
`_objects`, every index dict and `_object_ids` exactly as they were -/
theorem rejected_add_noop (defs : List IdxDef) (ops : List Op) (o : ObjId) (w' : World) (e : Err)
    (h : step defs (run defs ops) (.add o) = (w', some e)) :
    w'.tab.objs = (run defs ops).tab.objs ∧
    (∀ i k, w'.tab.idx i k = (run defs ops).tab.idx i k) ∧
    (∀ o', w'.tab.refs o' = (run defs ops).tab.refs o') := by
  cases (stepAdd_rejected (consistent_run defs ops) h).1
  exact ⟨rfl, fun _ _ => rfl, fun _ => rfl⟩

/-- an insertion is rejected only for a reason: `KeyError` ⇒ the object is new and one of its current keys in a unique
index is already taken; `ValueError` ⇒ the key function of a unique index returned a list -/
theorem rejected_add_reason (defs : List IdxDef) (ops : List Op) (o : ObjId) (w' : World) (e : Err)
    (h : step defs (run defs ops) (.add o) = (w', some e)) :
    o ∉ (run defs ops).tab.objs ∧
    ((e = .keyError ∧ ∃ i k, isUnique defs i = true ∧ k ∈ keysOf defs i ((run defs ops).cur o) ∧
        (run defs ops).tab.idx i k ≠ []) ∨
     (e = .valueError ∧ ∃ i d, defs[i]? = some d ∧ d.kind = .unique ∧
        ∃ ks, keyResAt ((run defs ops).cur o) i = .many ks)) :=
  (stepAdd_rejected (consistent_run defs ops) h).2

/-- a re-index that raises keeps the stored objects, `_object_ids` and the content of every index list (the object
is moved to the end of its lists); the table still describes the last accepted indexing of the object -/
theorem rejected_update_keeps (defs : List IdxDef) (ops : List Op) (o : ObjId) (w' : World) (e : Err)
    (h : step defs (run defs ops) (.update o) = (w', some e)) :
    w'.tab.objs = (run defs ops).tab.objs ∧
    (∀ i k, (w'.tab.idx i k).Perm ((run defs ops).tab.idx i k)) ∧
    (∀ o', w'.tab.refs o' = (run defs ops).tab.refs o') ∧
    w'.snap = (run defs ops).snap := by
  change stepUpdate defs _ o = _ at h
  rcases update_cases (consistent_run defs ops).tinv o ((run defs ops).cur o) with
    ⟨_, e', _⟩ | ⟨_, _, e', _, hobjs, hrefs, hperm⟩ <;> rw [stepUpdate, e'] at h <;> cases h
  exact ⟨hobjs, hperm, hrefs, rfl⟩

/-- `update_object` of an object that is not stored: `ValueError`, nothing changes -/
theorem update_unknown (defs : List IdxDef) (ops : List Op) (o : ObjId) (hn : o ∉ (run defs ops).tab.objs) :
    step defs (run defs ops) (.update o) = (run defs ops, some .valueError) := by
  show stepUpdate defs (run defs ops) o = _
  rw [stepUpdate, update_not_mem _ hn]

/-- `remove_object` never raises; for an object that is not stored it is a no-op -/
theorem remove_total (defs : List IdxDef) (ops : List Op) (o : ObjId) :
    (step defs (run defs ops) (.remove o)).2 = none ∧
    (o ∉ (run defs ops).tab.objs → (step defs (run defs ops) (.remove o)).1.tab = (run defs ops).tab) ∧
    o ∉ (step defs (run defs ops) (.remove o)).1.tab.objs := by
  have hc := consistent_run defs ops
  obtain ⟨h1, _, hobjs, _, hno⟩ := remove_spec hc.tinv o
  exact ⟨h1, hno, fun hm => (hc.tinv.objsNodup.mem_erase_iff.mp (hobjs ▸ hm)).1 rfl⟩

/-- `add_object` of an object that is already stored is a no-op (its indices are not refreshed) -/
theorem add_contained_noop (defs : List IdxDef) (ops : List Op) (o : ObjId) (hm : o ∈ (run defs ops).tab.objs) :
    step defs (run defs ops) (.add o) = (run defs ops, none) :=
  if_pos hm

/-- after an accepted `add` / `update` of `o` the table describes the current attribute values of `o` -/
theorem accepted_reindex_fresh (defs : List IdxDef) (ops : List Op) (o : ObjId) (w' : World)
    (h : step defs (run defs ops) (.update o) = (w', none)) :
    o ∈ w'.tab.objs ∧ w'.pending o = false ∧ w'.snap o = w'.cur o := by
  change stepUpdate defs _ o = _ at h
  rcases update_cases (consistent_run defs ops).tinv o ((run defs ops).cur o) with
    ⟨_, e', hm, _, hobjs, _⟩ | ⟨_, _, e', _⟩ <;> rw [stepUpdate, e'] at h <;> cases h
  exact ⟨hobjs ▸ hm, if_pos rfl, if_pos rfl⟩

/-- stored objects whose attributes were not written since their last accepted (re-)indexing are indexed under
their *current* key values -/
theorem fresh_run (defs : List IdxDef) (ops : List Op) (o : ObjId)
    (hm : o ∈ (run defs ops).tab.objs) (hp : (run defs ops).pending o = false) :
    ∀ i, keyResAt ((run defs ops).snap o) i = keyResAt ((run defs ops).cur o) i :=
  (consistent_run defs ops).fresh o hm hp

/-- `index.get(key)`: as a multiset exactly what a linear scan of `objects` returns -/
theorem lookup_eq_scan (defs : List IdxDef) (ops : List Op) (i : Nat) (k : Key) :
    ((run defs ops).tab.idx i k).Perm (scan defs (run defs ops).tab.objs (run defs ops).snap i k) :=
  (consistent_run defs ops).perm_scan i k

/-- … and with the *current* attribute values when every attribute write was followed by an accepted re-index -/
theorem lookup_eq_scan_current (defs : List IdxDef) (ops : List Op) (i : Nat) (k : Key)
    (hp : ∀ o, o ∈ (run defs ops).tab.objs → (run defs ops).pending o = false) :
    ((run defs ops).tab.idx i k).Perm (scan defs (run defs ops).tab.objs (run defs ops).cur i k) := by
  have hc := consistent_run defs ops
  refine List.perm_iff_count.mpr fun o => ?_
  rw [hc.count_scan, count_scan_list defs _ i k o _ hc.tinv.objsNodup]
  split
  · rename_i hm; rw [keysOf, keysOf, hc.fresh o hm (hp o hm) i]
  · rfl

/-- `obj in index.get(key)` -/
theorem mem_lookup_iff (defs : List IdxDef) (ops : List Op) (i : Nat) (k : Key) (o : ObjId) :
    o ∈ (run defs ops).tab.idx i k ↔
      o ∈ (run defs ops).tab.objs ∧ k ∈ keysOf defs i ((run defs ops).snap o) := by
  rw [← List.count_pos_iff, index_exact_run]
  split
  · rename_i hm; exact List.count_pos_iff.trans (and_iff_right hm).symm
  · rename_i hm; exact ⟨fun h => absurd h (Nat.lt_irrefl 0), fun h => absurd h.1 hm⟩

/-- `key in index` / `index.get(key) is None` -/
theorem contains_iff (defs : List IdxDef) (ops : List Op) (i : Nat) (k : Key) :
    contains (run defs ops).tab i k = true ↔
      ∃ o, o ∈ (run defs ops).tab.objs ∧ k ∈ keysOf defs i ((run defs ops).snap o) := by
  have h := mem_lookup_iff defs ops i k
  refine decide_eq_true_iff.trans ⟨fun hne => ?_, fun ⟨o, ho⟩ he => ?_⟩
  · obtain ⟨o, ho⟩ := List.exists_mem_of_ne_nil _ hne
    exact ⟨o, (h o).mp ho⟩
  · exact List.not_mem_nil (he ▸ (h o).mpr ho)

theorem get_none_iff (defs : List IdxDef) (ops : List Op) (i : Nat) (k : Key) :
    Multikey.get (run defs ops).tab i k = none ↔
      ¬ ∃ o, o ∈ (run defs ops).tab.objs ∧ k ∈ keysOf defs i ((run defs ops).snap o) := by
  rw [← contains_iff, Multikey.get, contains, decide_eq_true_iff]
  split
  · rename_i he; exact ⟨fun _ hne => hne he, fun _ => rfl⟩
  · rename_i hne; exact ⟨nofun, fun h => absurd hne h⟩

/-- `get_one` on a unique index: the object a scan finds, `KeyError` (or `None`) iff a scan finds none, and never
"has 2 objects" -/
theorem get_one_unique (defs : List IdxDef) (ops : List Op) (i : Nat) (k : Key) (allowNone : Bool)
    (hu : isUnique defs i = true) :
    (∀ o, getOne (run defs ops).tab i k allowNone = .ok (some o) ↔
        o ∈ (run defs ops).tab.objs ∧ k ∈ keysOf defs i ((run defs ops).snap o)) ∧
    (getOne (run defs ops).tab i k allowNone = (if allowNone then .ok none else .error .keyError) ↔
        ¬ ∃ o, o ∈ (run defs ops).tab.objs ∧ k ∈ keysOf defs i ((run defs ops).snap o)) ∧
    getOne (run defs ops).tab i k allowNone ≠ .error .valueError := by
  have hlen := unique_index_single defs ops i k hu
  have hmem := mem_lookup_iff defs ops i k
  generalize run defs ops = w at hlen hmem
  unfold getOne
  match hl : w.tab.idx i k with
  | [] =>
    rw [hl] at hmem
    have hnone : ∀ o, ¬(o ∈ w.tab.objs ∧ k ∈ keysOf defs i (w.snap o)) := fun o hp =>
      List.not_mem_nil ((hmem o).mpr hp)
    refine ⟨fun o => ⟨?_, fun hp => absurd hp (hnone o)⟩, ⟨fun _ ⟨o, hp⟩ => hnone o hp, fun _ => rfl⟩, ?_⟩ <;>
      cases allowNone <;> nofun
  | [a] =>
    rw [hl] at hmem
    have ha := (hmem a).mp (List.mem_singleton_self a)
    refine ⟨fun o => ⟨fun h => ?_, fun hp => ?_⟩, ⟨fun h => ?_, fun hn => absurd ⟨a, ha⟩ hn⟩, nofun⟩
    · cases h; exact ha
    · rw [List.mem_singleton.mp ((hmem o).mpr hp)]
    · cases allowNone <;> cases h
  | _ :: _ :: _ => rw [hl] at hlen; exact absurd (Nat.le_of_succ_le_succ hlen) (Nat.not_succ_le_zero _)

/-! ### indices added at run time (`add_index` on a table that already contains objects)
`xrun defs ops`: like `run`, but the history may also contain `addIndex d order` (the new index gets the next number; `order` is
the iteration order of the object set, any list is allowed). -/

/-- the invariant holds for the grown list of index definitions after every history with run-time `add_index` -/
theorem consistent_xrun (defs : List IdxDef) (ops : List XOp) :
    Consistent (xrun defs ops).defs (xrun defs ops).w :=
  foldl_xstep_consistent ops ⟨defs, World.init⟩ (consistent_empty defs _ _ _)

/-- …spelled out: every index, old or added later, lists exactly the stored objects under exactly their keys -/
theorem index_exact_xrun (defs : List IdxDef) (ops : List XOp) (i : Nat) (k : Key) (o : ObjId) :
    ((xrun defs ops).w.tab.idx i k).count o =
      if o ∈ (xrun defs ops).w.tab.objs then (keysOf (xrun defs ops).defs i ((xrun defs ops).w.snap o)).count k else 0 :=
  (consistent_xrun defs ops).count_scan i k o

/-- back references stay complete: the entry of a stored object names its filings in all indices, old and new -/
theorem refs_exact_xrun (defs : List IdxDef) (ops : List XOp) (o : ObjId) (hm : o ∈ (xrun defs ops).w.tab.objs) :
    (xrun defs ops).w.tab.refs o = some (allKeys (xrun defs ops).defs ((xrun defs ops).w.snap o)) :=
  (consistent_xrun defs ops).refs_snap o hm

theorem unique_index_single_xrun (defs : List IdxDef) (ops : List XOp) (i : Nat) (k : Key)
    (hu : isUnique (xrun defs ops).defs i = true) : ((xrun defs ops).w.tab.idx i k).length ≤ 1 :=
  (consistent_xrun defs ops).tinv.uniq i k hu

/-- an `add_index` that raises (duplicate key of a unique index, list key) leaves table and index list as they were -/
theorem rejected_add_index_noop (defs : List IdxDef) (ops : List XOp) (d : IdxDef) (order : List ObjId)
    (x' : XWorld) (e : Err) (h : xstep (xrun defs ops) (.addIndex d order) = (x', some e)) :
    x' = xrun defs ops := by
  simp only [xstep] at h
  rcases addIndex_cases (consistent_xrun defs ops) d order with ⟨_, e', _⟩ | ⟨_, e'⟩ <;> rw [e'] at h <;> cases h
  rfl

/-- non-vacuity: objects 1, 2 stored with one multi index; a unique index over the second attribute is added later -/
def exXOps (a2 : KeyRes) : List XOp :=
  [.op (.setAttrs 1 [.one 7, .one 5]), .op (.add 1), .op (.setAttrs 2 [.one 7, a2]), .op (.add 2)]
example : (xstep (xrun [⟨.multi, true⟩] (exXOps (.one 5))) (.addIndex ⟨.unique, true⟩ [2, 1])).2 = some .keyError := by decide +kernel
example : (xstep (xrun [⟨.multi, true⟩] (exXOps (.one 6))) (.addIndex ⟨.unique, true⟩ [2, 1])).2 = none ∧
    (xrun [⟨.multi, true⟩] (exXOps (.one 6) ++ [.addIndex ⟨.unique, true⟩ [2, 1], .op (.remove 1)])).w.tab.idx 1 6 = [2] ∧
    (xrun [⟨.multi, true⟩] (exXOps (.one 6) ++ [.addIndex ⟨.unique, true⟩ [2, 1], .op (.remove 1)])).w.tab.idx 0 7 = [2] ∧
    (xrun [⟨.multi, true⟩] (exXOps (.one 6) ++ [.addIndex ⟨.unique, true⟩ [2, 1], .op (.remove 1)])).w.tab.idx 1 5 = [] := by
  decide +kernel

open Sdc.Generated in
/-- class, `index_none_values` of every lookup the property names, as introspected from the real tables -/
theorem generated_index_classes :
    descriptorsLookup.lookup "handle" = some ⟨.unique, true⟩ ∧
    descriptorsLookup.lookup "parent_handle" = some ⟨.multi, true⟩ ∧
    descriptorsLookup.lookup "NODETYPE" = some ⟨.multi, true⟩ ∧
    descriptorsLookup.lookup "condition_signaled" = some ⟨.multi, false⟩ ∧
    descriptorsLookup.lookup "source" = some ⟨.oneN, false⟩ ∧
    statesLookup.lookup "descriptor_handle" = some ⟨.unique, true⟩ ∧
    statesLookup.lookup "NODETYPE" = some ⟨.multi, false⟩ ∧
    multiStatesLookup.lookup "descriptor_handle" = some ⟨.multi, true⟩ ∧
    multiStatesLookup.lookup "handle" = some ⟨.unique, false⟩ ∧
    multiStatesLookup.lookup "NODETYPE" = some ⟨.multi, false⟩ ∧
    subscriptions.lookup "dispatch_identifier" = some ⟨.unique, true⟩ ∧
    subscriptions.lookup "identifier" = some ⟨.unique, true⟩ ∧
    subscriptions.lookup "netloc" = some ⟨.multi, true⟩ := by
  decide +kernel

open Sdc.Generated in
/-- by-handle / by-identifier lookups of the real tables return at most one object, after any history -/
theorem generated_unique_lookups_single (ops : List Op) (k : Key) :
    ((run (defsOf descriptorsLookup) ops).tab.idx (idxPos descriptorsLookup "handle") k).length ≤ 1 ∧
    ((run (defsOf statesLookup) ops).tab.idx (idxPos statesLookup "descriptor_handle") k).length ≤ 1 ∧
    ((run (defsOf multiStatesLookup) ops).tab.idx (idxPos multiStatesLookup "handle") k).length ≤ 1 ∧
    ((run (defsOf subscriptions) ops).tab.idx (idxPos subscriptions "identifier") k).length ≤ 1 ∧
    ((run (defsOf subscriptions) ops).tab.idx (idxPos subscriptions "dispatch_identifier") k).length ≤ 1 :=
  ⟨unique_index_single _ ops _ k (by decide +kernel), unique_index_single _ ops _ k (by decide +kernel),
   unique_index_single _ ops _ k (by decide +kernel), unique_index_single _ ops _ k (by decide +kernel),
   unique_index_single _ ops _ k (by decide +kernel)⟩

/-! ### non-vacuity: concrete histories (three indices: multi, unique, 1:n; objects 1, 2, 3) -/

def exDefs : List IdxDef := [⟨.multi, true⟩, ⟨.unique, true⟩, ⟨.oneN, false⟩]
def exOps : List Op :=
  [.setAttrs 1 [.one 7, .one 5, .many [3, 3, 4]], .add 1,
   .setAttrs 2 [.one 7, .one 5, .none], .add 2,          -- rejected: unique key 5 is taken
   .setAttrs 3 [.none, .one 6, .many [4]], .add 3,
   .setAttrs 3 [.one 7, .one 5, .attrErr], .update 3]     -- rejected re-index

/-- the second insertion is rejected with `KeyError` (hypothesis of `rejected_add_noop` is satisfiable) -/
example : (step exDefs (run exDefs (exOps.take 3)) (.add 2)).2 = some .keyError := by decide +kernel
/-- … after object 2 had already been filed in the first (multi) index -/
example : ((mkLoop exDefs 2 [.one 7, .one 5, .none] 3 0 (run exDefs (exOps.take 3)).tab).1.idx 0 7) = [1, 2] := by decide +kernel
/-- the re-index of object 3 is rejected (hypothesis of `rejected_update_keeps`) -/
example : (step exDefs (run exDefs (exOps.take 7)) (.update 3)).2 = some .keyError := by decide +kernel
/-- final content: duplicates of a 1:n key are kept, object 3 is still filed under its previous keys -/
example : (run exDefs exOps).tab.objs = [1, 3] ∧ (run exDefs exOps).tab.idx 2 3 = [1, 1] ∧
    (run exDefs exOps).tab.idx 2 4 = [1, 3] ∧ (run exDefs exOps).tab.idx 1 6 = [3] ∧
    (run exDefs exOps).tab.idx 0 7 = [1] ∧ (run exDefs exOps).pending 3 = true := by decide +kernel
/-- an accepted re-index (hypothesis of `accepted_reindex_fresh`) -/
example : (step exDefs (run exDefs (exOps ++ [.setAttrs 3 [.one 7, .one 8, .attrErr]])) (.update 3)).2 = none := by
  decide +kernel
example : (step exDefs (run exDefs exOps) (.update 2)).2 = some .valueError := by decide +kernel
example : (step exDefs (run exDefs [.setAttrs 1 [.none, .many [1], .none]]) (.add 1)).2 = some .valueError := by decide +kernel
example : isUnique exDefs 1 = true := by decide
/-- the reason `rejected_add_reason` names, in the rejected insertion above: unique key 5 of index 1 is taken -/
example : 5 ∈ keysOf exDefs 1 ((run exDefs (exOps.take 3)).cur 2) ∧ (run exDefs (exOps.take 3)).tab.idx 1 5 = [1] := by decide +kernel

end Sdc.C11
