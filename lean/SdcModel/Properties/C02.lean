import SdcModel.Proofs.MdibHist
/-!
# C02 — MDIB version counters are monotonic, gap-free and referentially consistent
Property theorems over the provider model (`SdcModel/Mdib.lean`, `MdibDescr.lean`); helper lemmas are in `Proofs/Mdib*.lean`.
-/
set_option linter.unusedSimpArgs false
namespace Sdc.C02
open Sdc.Mdib

/-- MdibVersion: a committed transaction raises it by exactly one; an empty, aborted or rejected transaction
    (application raised, API call rejected) returns exactly the tables it started from and reports nothing;
    a transaction rejected at commit time either left the tables alone or had already taken the next version -/
theorem mdib_version_step (t : Tables) (sc : Script) :
    ((runScript t sc).2.2 = .committed → (runScript t sc).1.ver = t.ver + 1) ∧
    (((runScript t sc).2.2 = .empty ∨ (runScript t sc).2.2 = .aborted ∨ (runScript t sc).2.2 = .rejected) →
        (runScript t sc).1 = t ∧ (runScript t sc).2.1 = {}) := runScript_outcome t sc

/-! ## referential well-formedness (`WF`, see `Proofs/MdibWF.lean`) -/

/-- tables used for the non-vacuity examples: an MDS (1) with a metric (3) and a context descriptor (4), two single states,
    one context state, saved versions of removed objects -/
def exT : Tables where
  ver := 5
  descrs := [⟨1, none, .component, 3, 0, some 1⟩, ⟨3, some 1, .metric, 1, 0, some 1⟩, ⟨4, some 1, .context, 1, 0, some 1⟩]
  states := [⟨1, 3, 4, .component, 0⟩, ⟨3, 1, 0, .metric, 0⟩]
  ctx := [{ h := 10, dh := 4, dv := 1, sv := 2, body := 0, assoc := .assoc, bindV := none, unbindV := none, bindT := none, unbindT := none }]
  dSaved := [(6, 4)]
  sSaved := [(6, 9)]
  cSaved := [(12, 3)]

def exS : SScript := ⟨.metric, [.get 3, .setBody 3 5], false, false⟩
def exC : CScript := ⟨[.get 10, .mk 4 11 false true 7 0, .mk 4 12 true false 8 0], false, false⟩

example : WF exT := by decide
example : (runS exT exS).2.2 = .committed := by decide
example : (runC exT exC).2.2 = .committed ∧ FreshUuids exT exC := by decide

/-- every state transaction script (all five kinds; committed, empty, rejected, with caught errors, aborted) keeps the
    tables well-formed: states refer to existing descriptors and carry their version, one single state per descriptor,
    parents exist, keys unique -/
theorem wf_preserved_state (t : Tables) (s : SScript) (h : WF t) : WF (runS t s).1 := (runS_ok h s).2

/-- the same for every context state transaction script, even one whose commit dies on a colliding generated handle -/
theorem wf_preserved_context (t : Tables) (s : CScript) (h : WF t) : WF (runC t s).1 := runC_wf h s

/-! ## per-object version counters (`seenS`/`seenC`: live version, else the saved version of the removed object) -/

/-- StateVersion of every single state never decreases over a state transaction, whatever the script does -/
theorem state_version_monotone (t : Tables) (s : SScript) (hw : WF t) (h : Handle) : seenS t h ≤ seenS (runS t s).1 h :=
  runS_seenS hw s h

/-- a single state whose content differs after a state transaction has a strictly larger StateVersion -/
theorem content_change_bumps (t : Tables) (s : SScript) (hw : WF t) (h : Handle) (a b : SState)
    (ha : findS t h = some a) (hb : findS (runS t s).1 h = some b) (hne : a.body ≠ b.body) : a.sv < b.sv := by
  rcases runS_change hw s ha hb with e | e
  · exact absurd (e ▸ rfl) hne
  · exact e

/-- stronger: any difference at all (content, DescriptorVersion, ...) comes with a larger StateVersion -/
theorem state_change_bumps (t : Tables) (s : SScript) (hw : WF t) (h : Handle) (a b : SState)
    (ha : findS t h = some a) (hb : findS (runS t s).1 h = some b) (hne : a ≠ b) : a.sv < b.sv :=
  (runS_change hw s ha hb).resolve_left hne

example : seenS exT 3 = some 0 ∧ seenS (runS exT exS).1 3 = some 1 ∧ seenS exT 6 = some 9 := by decide

/-- StateVersion of every context state (live or removed) never decreases over a context transaction, provided the handles
    generated for `mk_context_state(handle=None)` are fresh -/
theorem context_version_monotone (t : Tables) (s : CScript) (hw : WF t) (hf : FreshUuids t s) (h : Handle) :
    seenC t h ≤ seenC (runC t s).1 h := runC_seenC hw s hf h

/-- a context state that differs after a context transaction has a strictly larger StateVersion -/
theorem context_change_bumps (t : Tables) (s : CScript) (hw : WF t) (hf : FreshUuids t s) (h : Handle) (a b : CState)
    (ha : findC t h = some a) (hb : findC (runC t s).1 h = some b) (hne : a ≠ b) : a.sv < b.sv :=
  (runC_change hw s hf ha hb).resolve_left hne

/-- re-creating a removed context state handle continues above the saved version (12 was removed at version 3) -/
example : seenC exT 12 = some 3 ∧ seenC (runC exT exC).1 12 = some 4 ∧ seenC (runC exT exC).1 10 = some 3 := by decide

/-- without the freshness hypothesis the counter can go down: a generated handle that collides with a removed one restarts at 0 -/
theorem context_version_monotone_needs_fresh :
    ¬ (seenC exT 12 ≤ seenC (runC exT ⟨[.mk 4 12 false false 8 0], false, false⟩).1 12) := by
  have h1 : seenC exT 12 = some 3 := by decide
  have h2 : seenC (runC exT ⟨[.mk 4 12 false false 8 0], false, false⟩).1 12 = some 0 := by decide
  rw [h1, h2]; simp

/-- a state transaction does not touch descriptors or context states, a context transaction no descriptors or single states -/
theorem state_tx_frame (t : Tables) (s : SScript) (h : Handle) :
    seenD (runS t s).1 h = seenD t h ∧ seenC (runS t s).1 h = seenC t h ∧ (runS t s).1.descrs = t.descrs ∧ (runS t s).1.ctx = t.ctx := by
  obtain ⟨a, b, c, d⟩ := runS_frame t s
  exact ⟨seenD_congr a c h, seenC_congr b d h, a, b⟩
theorem context_tx_frame (t : Tables) (s : CScript) (h : Handle) :
    seenD (runC t s).1 h = seenD t h ∧ seenS (runC t s).1 h = seenS t h ∧ (runC t s).1.descrs = t.descrs ∧ (runC t s).1.states = t.states := by
  obtain ⟨a, b, c, d⟩ := runC_frame t s
  exact ⟨seenD_congr a c h, seenS_congr b d h, a, b⟩

/-! ## descriptor transactions and histories of all seven transaction kinds

`KOK` (kind discipline of the tables: single states are not of the context kind and do not hang on context descriptors,
context states hang on context descriptors) is an invariant the real container classes guarantee by construction; the
model's `kind` fields are free, so it is carried as a second invariant. `DScriptOK` says that the entities handed to
`write_entity` are well-formed `Entity` objects (what `mdib.entities.by_handle` / `new_state` can produce); the classic
calls (`add_descriptor`, `remove_descriptor`, `get_descriptor`, `get_state`) are unrestricted. -/

def exCS : CState :=
  { h := 10, dh := 4, dv := 0, sv := 0, body := 7, assoc := .assoc, bindV := none, unbindV := none, bindT := none, unbindT := none }
def exD : DScript :=
  ⟨[.getDescr 1, .getState 1, .removeDescr 3, .addDescr ⟨6, some 1, .metric, 0, 9, none⟩ (some 2),
    .writeEntity ⟨4, some 1, .context, 0, 5, some 1⟩ none (some [exCS])], false, false⟩

example : KOK exT ∧ DScriptOK exT exD ∧ (runD exT exD).2.2 = .committed := by decide
/-- delete + re-create continues above the saved versions (descriptor 6 was removed at version 4, its state at 9) -/
example : seenD exT 6 = some 4 ∧ seenD (runD exT exD).1 6 = some 5 ∧ seenS (runD exT exD).1 6 = some 10 ∧
    seenD (runD exT exD).1 3 = some 1 ∧ findD (runD exT exD).1 3 = none := by decide

/-- every descriptor transaction script - create / delete (whole subtrees) / update of descriptors with their states in any
    order and combination, classic and entity interface, committed, refused by the consistency check, rejected, aborted -
    keeps the tables well-formed (and keeps the kind discipline) -/
theorem wf_preserved_descriptor_partial (t : Tables) (s : DScript) (hw : WF t) (hk : KOK t) (hs : DScriptOK t s) :
    WF (runD t s).1 ∧ KOK (runD t s).1 := (runD_ok hw hk s hs).2

/-- the statement without the kind discipline -/
def C02_wf_full : Prop := ∀ (t : Tables) (s : DScript), WF t → WF (runD t s).1

/-- ... is false of the model: its `kind` fields are independent, a single state of kind `context` is in no state dict of
    the commit and keeps the old DescriptorVersion. (No real container has such a kind; not a defect of the code.) -/
theorem C02_wf_full_false : ¬ C02_wf_full := by
  intro h
  have := h { descrs := [⟨1, none, .component, 0, 0, some 1⟩, ⟨3, some 1, .metric, 0, 0, some 1⟩], states := [⟨3, 0, 0, .context, 0⟩] }
    ⟨[.getDescr 3], false, false⟩ (by decide)
  revert this; decide

/-- `KOK` is kept by state transactions that do what the API allows (`SKindOK`: no single state of the context kind, none
    written to a context descriptor) and by every context transaction -/
theorem kinds_preserved_state (t : Tables) (s : SScript) (hw : WF t) (hk : KOK t) (hs : SKindOK t s) : KOK (runS t s).1 :=
  runS_kok hw hk s hs
theorem kinds_preserved_context (t : Tables) (s : CScript) (hw : WF t) (hk : KOK t) : KOK (runC t s).1 := runC_kok hw hk s

example : SKindOK exT exS := by decide

/-- histories: any sequence of transactions of the seven kinds keeps the MDIB well-formed -/
theorem wf_hist (t : Tables) (hist : List Script) (hw : WF t) (hk : KOK t) (h : HistOK false t hist) :
    WF (runHist t hist) ∧ KOK (runHist t hist) := runHist_wfk hist t hw hk h

/-- histories of state and context transactions need no side condition at all -/
theorem wf_hist_state_context (t : Tables) (hist : List Script) (hw : WF t) (h : ∀ sc ∈ hist, sc.isSC = true) :
    WF (runHist t hist) := runHist_wf_sc hist t hw h

example : HistOK true exT [.s exS, .c exC, .d exD, .s exS] := by decide

/-- DescriptorVersion of every descriptor, StateVersion of every single and context state - live or removed (saved
    version) - never decreases over a descriptor transaction; a handle that is deleted and created again continues above
    the saved version -/
theorem descriptor_tx_versions_monotone_partial (t : Tables) (s : DScript) (hw : WF t) (hk : KOK t) (hs : DScriptOK t s)
    (h : Handle) : seenD t h ≤ seenD (runD t s).1 h ∧ seenS t h ≤ seenS (runD t s).1 h ∧ seenC t h ≤ seenC (runD t s).1 h :=
  ⟨(runD_mono hw hk s hs).seenD h, (runD_mono hw hk s hs).seenS h, (runD_mono hw hk s hs).seenC h⟩

/-- a descriptor that differs after a descriptor transaction (content, or version bumped because a child was added or
    removed) has a strictly larger DescriptorVersion -/
theorem descriptor_change_bumps_partial (t : Tables) (s : DScript) (hw : WF t) (hk : KOK t) (hs : DScriptOK t s) (h : Handle)
    (a b : Descr) (ha : findD t h = some a) (hb : findD (runD t s).1 h = some b) (hne : a ≠ b) : a.ver < b.ver :=
  ((runD_mono hw hk s hs).chgD h a b ha hb).resolve_left hne

/-- a single state that differs after a descriptor transaction (written, or following its descriptor's new version) has a
    strictly larger StateVersion; the same for context states -/
theorem descriptor_tx_state_change_bumps_partial (t : Tables) (s : DScript) (hw : WF t) (hk : KOK t) (hs : DScriptOK t s)
    (h : Handle) (a b : SState) (ha : findS t h = some a) (hb : findS (runD t s).1 h = some b) (hne : a ≠ b) : a.sv < b.sv :=
  ((runD_mono hw hk s hs).chgS h a b ha hb).resolve_left hne
theorem descriptor_tx_context_change_bumps_partial (t : Tables) (s : DScript) (hw : WF t) (hk : KOK t) (hs : DScriptOK t s)
    (h : Handle) (a b : CState) (ha : findC t h = some a) (hb : findC (runD t s).1 h = some b) (hne : a ≠ b) : a.sv < b.sv :=
  ((runD_mono hw hk s hs).chgC h a b ha hb).resolve_left hne

/-- the updated MDS (1) and its state; the written context state of the updated context descriptor 4 (written: +1, follows
    the descriptor: +1); the state of the removed descriptor 3 keeps its version in the saved lookup -/
example : seenD (runD exT exD).1 1 = some 4 ∧ seenS (runD exT exD).1 1 = some 5 ∧ seenC (runD exT exD).1 10 = some 4 ∧
    seenD (runD exT exD).1 4 = some 2 ∧ seenS exT 3 = seenS (runD exT exD).1 3 := by decide

/-- histories of transactions of all seven kinds: no version counter of any descriptor, state or context state - live or
    removed - ever decreases (`HistOK true`: generated context state handles are fresh, entities are well-formed) -/
theorem counters_monotone_hist (t : Tables) (hist : List Script) (hw : WF t) (hk : KOK t) (h : HistOK true t hist)
    (x : Handle) : seenD t x ≤ seenD (runHist t hist) x ∧ seenS t x ≤ seenS (runHist t hist) x ∧
      seenC t x ≤ seenC (runHist t hist) x := runHist_seen hist t hw hk h x

/-- state and context histories: the two state counters, for every script sequence with fresh generated handles -/
theorem state_context_counters_monotone_step (t : Tables) (sc : Script) (hw : WF t) (hk : KOK t) (h : StepOK true t sc)
    (x : Handle) : seenD t x ≤ seenD (runScript t sc).1 x ∧ seenS t x ≤ seenS (runScript t sc).1 x ∧
      seenC t x ≤ seenC (runScript t sc).1 x :=
  ⟨(runScript_mono hw hk sc h).seenD x, (runScript_mono hw hk sc h).seenS x, (runScript_mono hw hk sc h).seenC x⟩

end Sdc.C02
