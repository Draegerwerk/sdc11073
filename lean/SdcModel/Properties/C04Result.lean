import SdcModel.Proofs.MdibResultFinal
/-!
# C04 (result clauses) — the TransactionResult contains exactly what the transaction changed, with the committed values

`r` = TransactionResult handed to the report builders, `t'` = tables after a committed transaction. Helper lemmas are in
`Proofs/MdibResult*.lean`; `WF`, `KOK`, `FreshUuids`, `DScriptOK` as in `Properties/C02.lean`.
-/
namespace Sdc.C04
open Sdc.Mdib

def rT : Tables where
  ver := 5
  descrs := [⟨1, none, .component, 3, 0, some 1⟩, ⟨3, some 1, .metric, 1, 0, some 1⟩, ⟨4, some 1, .context, 1, 0, some 1⟩]
  states := [⟨1, 3, 4, .component, 0⟩, ⟨3, 1, 0, .metric, 0⟩]
  ctx := [{ h := 10, dh := 4, dv := 1, sv := 2, body := 0, assoc := .assoc, bindV := none, unbindV := none, bindT := none, unbindT := none }]
  dSaved := [(6, 4)]
  sSaved := [(6, 9)]
  cSaved := [(12, 3)]

def rS : SScript := ⟨.metric, [.get 3, .setBody 3 5], false, false⟩
def rC : CScript := ⟨[.get 10, .mk 4 11 false true 7 0, .del 10], false, false⟩
def rCS : CState :=
  { h := 10, dh := 4, dv := 0, sv := 0, body := 7, assoc := .assoc, bindV := none, unbindV := none, bindT := none, unbindT := none }
def rD : DScript :=
  ⟨[.getDescr 1, .getState 1, .removeDescr 3, .addDescr ⟨6, some 1, .metric, 0, 9, none⟩ (some 2),
    .writeEntity ⟨4, some 1, .context, 0, 5, some 1⟩ none (some [rCS])], false, false⟩

example : WF rT ∧ KOK rT ∧ FreshUuids rT rC ∧ DScriptOK rT rD := by decide +kernel
example : (runS rT rS).2.2 = .committed ∧ (runS rT rS).2.1.allS = [⟨3, 1, 1, .metric, 5⟩] := by decide +kernel
/-- the deleted context state 10 is not in the result, the new one is -/
example : (runC rT rC).2.2 = .committed ∧ (runC rT rC).2.1.ctx.map (·.h) = [11] ∧ findC (runC rT rC).1 10 = none := by decide +kernel
example : (runD rT rD).2.2 = .committed ∧ (runD rT rD).2.1.descrCreated.map (·.handle) = [6] ∧
    (runD rT rD).2.1.descrUpdated.map (·.handle) = [1, 4] ∧ (runD rT rD).2.1.descrDeleted.map (·.handle) = [3] ∧
    (runD rT rD).2.1.allS.map (·.dh) = [6, 1] ∧ (runD rT rD).2.1.ctx.map (·.h) = [10] := by decide +kernel

/-- every reported state is the state the tables hold after the commit -/
theorem result_truthful_state (t t' : Tables) (r : TxResult) (s : SScript) (hw : WF t) (h : runS t s = (t', r, .committed)) :
    ∀ x ∈ r.allS, findS t' x.dh = some x := (result_truthful_S hw h).1

/-- no state is reported twice -/
theorem result_nodup_state (t t' : Tables) (r : TxResult) (s : SScript) (hw : WF t) (h : runS t s = (t', r, .committed)) :
    (r.allS.map (·.dh)).Nodup := (result_truthful_S hw h).2

/-- every single state that differs after the commit is reported (`s.kind ≠ .context`: there is no state transaction of
    the context kind; the model's `putStates` has no list for it) -/
theorem result_complete_state (t t' : Tables) (r : TxResult) (s : SScript) (hw : WF t) (hk : s.kind ≠ .context)
    (h : runS t s = (t', r, .committed)) (x : Handle) (hne : findS t' x ≠ findS t x) : ∃ y ∈ r.allS, y.dh = x :=
  result_complete_S hw hk h x hne

/-- the unconditional statement -/
def C04_result_complete_state_full : Prop :=
  ∀ (t t' : Tables) (r : TxResult) (s : SScript), WF t → runS t s = (t', r, .committed) →
    ∀ x, findS t' x ≠ findS t x → ∃ y ∈ r.allS, y.dh = x

/-- ... is false of the model for the (non-existent) state transaction of kind `context`: it writes a state and reports nothing -/
theorem C04_result_complete_state_full_false : ¬ C04_result_complete_state_full := by
  intro h
  have := h { descrs := [⟨3, none, .metric, 0, 0, some 3⟩] } _ _ ⟨.context, [.write 3 .context 0 0 false], false, false⟩
    (by decide) rfl 3 (by decide)
  revert this; decide

/-- nothing else is in the result of a state transaction -/
theorem result_only_states (t t' : Tables) (r : TxResult) (s : SScript) (hw : WF t) (h : runS t s = (t', r, .committed)) :
    r.ctx = [] ∧ r.descrCreated = [] ∧ r.descrUpdated = [] ∧ r.descrDeleted = [] := by
  obtain ⟨items, _, _, rfl, _⟩ := runS_committed hw h
  have fr := putStates_frame {} s.kind (items.map (·.2.new))
  exact ⟨fr.2.2.2, fr.1, fr.2.1, fr.2.2.1⟩

theorem result_truthful_context (t t' : Tables) (r : TxResult) (s : CScript) (hw : WF t) (hf : FreshUuids t s)
    (h : runC t s = (t', r, .committed)) : ∀ x ∈ r.ctx, findC t' x.h = some x := (result_truthful_C hw hf h).1

theorem result_nodup_context (t t' : Tables) (r : TxResult) (s : CScript) (hw : WF t) (hf : FreshUuids t s)
    (h : runC t s = (t', r, .committed)) : (r.ctx.map (·.h)).Nodup ∧ r.allS = [] :=
  (result_truthful_C hw hf h).2

/-- every context state that differs after the commit is reported - unless it was deleted (`write_entity` without the
    state): a deleted context state cannot be reported -/
theorem result_complete_context (t t' : Tables) (r : TxResult) (s : CScript) (hw : WF t) (hf : FreshUuids t s)
    (h : runC t s = (t', r, .committed)) (x : Handle) (hne : findC t' x ≠ findC t x) :
    (∃ y ∈ r.ctx, y.h = x) ∨ findC t' x = none := result_complete_C hw hf h x hne

/-! ## descriptor transactions (under the kind discipline `KOK` and well-formed entities `DScriptOK`) -/

/-- a created descriptor is in the tables exactly as reported -/
theorem result_truthful_created_partial (t t' : Tables) (r : TxResult) (s : DScript) (hw : WF t) (hk : KOK t) (hs : DScriptOK t s)
    (h : runD t s = (t', r, .committed)) : ∀ d ∈ r.descrCreated, findD t' d.handle = some d :=
  (runD_result hw hk s hs h).created

/-- an updated descriptor (updated by the script, or a parent whose version was bumped) is in the tables with the reported
    version, content and kind (for script updates the reported record is the handed-out copy; the table keeps parent and
    source mds of the old record) -/
theorem result_truthful_updated_partial (t t' : Tables) (r : TxResult) (s : DScript) (hw : WF t) (hk : KOK t) (hs : DScriptOK t s)
    (h : runD t s = (t', r, .committed)) :
    ∀ d ∈ r.descrUpdated, ∃ d', findD t' d.handle = some d' ∧ d'.ver = d.ver ∧ d'.body = d.body ∧ d'.kind = d.kind :=
  (runD_result hw hk s hs h).updated

/-- a descriptor reported as deleted is gone -/
theorem result_truthful_deleted_partial (t t' : Tables) (r : TxResult) (s : DScript) (hw : WF t) (hk : KOK t) (hs : DScriptOK t s)
    (h : runD t s = (t', r, .committed)) : ∀ d ∈ r.descrDeleted, findD t' d.handle = none :=
  (runD_result hw hk s hs h).deleted

/-- the reported single and context states are the committed ones -/
theorem result_truthful_descriptor_states_partial (t t' : Tables) (r : TxResult) (s : DScript) (hw : WF t) (hk : KOK t)
    (hs : DScriptOK t s) (h : runD t s = (t', r, .committed)) :
    (∀ x ∈ r.allS, findS t' x.dh = some x) ∧ (∀ c ∈ r.ctx, findC t' c.h = some c) :=
  ⟨(runD_result hw hk s hs h).states, (runD_result hw hk s hs h).ctx⟩

/-- completeness: a descriptor that differs (or is new, or gone) is in one of the three descriptor lists; a state that
    differs is reported or gone (removed with its descriptor / deleted context state) -/
theorem result_complete_descriptor_partial (t t' : Tables) (r : TxResult) (s : DScript) (hw : WF t) (hk : KOK t)
    (hs : DScriptOK t s) (h : runD t s = (t', r, .committed)) :
    (∀ x, findD t' x ≠ findD t x → x ∈ (r.descrCreated ++ r.descrUpdated ++ r.descrDeleted).map (·.handle)) ∧
    (∀ x, findS t' x ≠ findS t x → (∃ y ∈ r.allS, y.dh = x) ∨ findS t' x = none) ∧
    (∀ x, findC t' x ≠ findC t x → (∃ y ∈ r.ctx, y.h = x) ∨ findC t' x = none) :=
  ⟨(runD_result hw hk s hs h).completeD, (runD_result hw hk s hs h).completeS, (runD_result hw hk s hs h).completeC⟩

end Sdc.C04
