import SdcModel.LockLts
import SdcModel.Proofs.LockLts
import SdcModel.Generated.LockProgs
/-!
# C07 — Get responses are consistent snapshots under concurrent transactions
Property theorems only. Model: `SdcModel/LockLts.lean` (interleaving semantics, any thread may move at any step);
invariant: `SdcModel/Proofs/LockLts.lean`; the programs of the request handlers and of the transactions:
`Generated/LockProgs.lean` (regenerated on every run from dynamic lock / access traces of the real code).
-/
namespace Sdc.C07
open Sdc.LockLts

/-- Main theorem. Any number of threads (`thr : Nat → Thr`), every one with a `WellLocked` program that does not
    mutate published state objects, ANY schedule (`Reach` lets any enabled thread move at every step): a completed
    thread that only reads (a request handler) has observed exactly ONE published triple
    (MdibVersion, description, states) — all its version reads, description reads and state serialisations
    (the latter possibly after it released `mdib_lock`) belong to the same moment at which the lock was free. -/
theorem wellLocked_snapshot (c0 c : Cfg) (h0 : Init c0)
    (hw : ∀ j, WellLocked (c0.thr j).prog ∧ NoMutate (c0.thr j).prog) (hr : Reach c0 c)
    (i : Nat) (hro : ReadOnly (c.thr i).prog) (hd : (c.thr i).todo = []) :
    ∃ p ∈ c.hist, Consistent (c.thr i) p :=
  snapshot_of_good (good_reach (good_init h0 hw) hr) i hro hd

/-- the same for a schedule given as a list of thread ids (what the driver executes) -/
theorem wellLocked_snapshot_sched (c0 : Cfg) (h0 : Init c0)
    (hw : ∀ j, WellLocked (c0.thr j).prog ∧ NoMutate (c0.thr j).prog) (sched : List Nat)
    (i : Nat) (hro : ReadOnly ((runSched c0 sched).1.thr i).prog) (hd : ((runSched c0 sched).1.thr i).todo = []) :
    ∃ p ∈ (runSched c0 sched).1.hist, Consistent ((runSched c0 sched).1.thr i) p :=
  wellLocked_snapshot c0 _ h0 hw (reach_runSched c0 c0 Reach.refl sched) i hro hd

/-- "the MDIB at MdibVersion v" is well defined: when additionally every critical section that changes content also
    increments `mdib_version` (`Committing`), no version is ever published with two different contents -/
theorem history_functional (c0 c : Cfg) (h0 : Init c0)
    (hw : ∀ j, WellLocked (c0.thr j).prog ∧ NoMutate (c0.thr j).prog ∧ Committing (c0.thr j).prog) (hr : Reach c0 c) :
    ∀ p ∈ c.hist, ∀ q ∈ c.hist, p.1 = q.1 → p = q :=
  (func_reach (good_init h0 (fun j => ⟨(hw j).1, (hw j).2.1⟩)) (func_init h0) (fun j => (hw j).2.2) hr).1

/-- Full statement: the completed request has observed exactly the content that the MDIB had at the MdibVersion it
    observed — `p` is the only triple ever published with that version -/
theorem snapshot_at_version (c0 c : Cfg) (h0 : Init c0)
    (hw : ∀ j, WellLocked (c0.thr j).prog ∧ NoMutate (c0.thr j).prog ∧ Committing (c0.thr j).prog) (hr : Reach c0 c)
    (i : Nat) (hro : ReadOnly (c.thr i).prog) (hd : (c.thr i).todo = []) :
    ∃ p ∈ c.hist, Consistent (c.thr i) p ∧ ∀ q ∈ c.hist, q.1 = p.1 → q = p := by
  obtain ⟨p, hp, hc⟩ := wellLocked_snapshot c0 c h0 (fun j => ⟨(hw j).1, (hw j).2.1⟩) hr i hro hd
  exact ⟨p, hp, hc, fun q hq hv => history_functional c0 c h0 hw hr q hq p hp hv⟩

/-- every generated program keeps the lock discipline; moving a shared read or write out of the critical section
    (or into a second one) in the code makes this fail to build -/
theorem progs_wellLocked :
    (∀ p ∈ Generated.readerProgs, WellLocked p ∧ ReadOnly p ∧ NoMutate p ∧ Committing p) ∧
    (∀ p ∈ Generated.writerProgs, WellLocked p ∧ NoMutate p ∧ Committing p) := by
  decide +kernel

/-- no handler enters a critical section with an acquire that can give up (timeout / non-blocking): the translator lists
    every handler for which it saw such an acquire, and adds the path "the acquire gave up" to `readerProgs` -/
theorem handlers_block_on_lock : Generated.timedAcquireProgs = [] := by decide

/-- the four handlers by name (each request shape that was traced) -/
theorem handlers_wellLocked :
    WellLocked Generated.prog_getMdib ∧
    WellLocked Generated.prog_getMdDescription_all ∧ WellLocked Generated.prog_getMdDescription_handles ∧
    WellLocked Generated.prog_getMdState_all ∧ WellLocked Generated.prog_getMdState_handles ∧
    WellLocked Generated.prog_getContextStates_all ∧ WellLocked Generated.prog_getContextStates_handles := by
  decide

/-- instance for the code as traced: any mix of the generated request and transaction programs, any number of
    threads, any schedule — every completed request holds the snapshot of the MdibVersion it states -/
theorem generated_snapshot (c0 c : Cfg) (h0 : Init c0)
    (hp : ∀ j, (c0.thr j).prog ∈ Generated.readerProgs ++ Generated.writerProgs ++ [[]])
    (hr : Reach c0 c) (i : Nat) (hi : (c.thr i).prog ∈ Generated.readerProgs) (hd : (c.thr i).todo = []) :
    ∃ p ∈ c.hist, Consistent (c.thr i) p ∧ ∀ q ∈ c.hist, q.1 = p.1 → q = p := by
  refine snapshot_at_version c0 c h0 (fun j => ?_) hr i (progs_wellLocked.1 _ hi).2.1 hd
  rcases List.mem_append.1 (hp j) with h | h
  · rcases List.mem_append.1 h with h | h
    · obtain ⟨h1, _, h3, h4⟩ := progs_wellLocked.1 _ h
      exact ⟨h1, h3, h4⟩
    · exact progs_wellLocked.2 _ h
  · rw [List.eq_of_mem_singleton h]; decide

/-! ### the discipline is necessary: negative witnesses (executed by the kernel) -/

/-- the shape of the pinned tree (`_on_get_md_state`: version group read after the lock was released) -/
def prog_versionAfterRelease : List Act := [.acq 0, .rdC, .rel 0, .rdV, .deref]
def prog_commit : List Act := [.acq 1, .acq 0, .rdV, .rdC, .incV, .wrC 1, .rel 0, .rel 1]
/-- a transaction that changes the published state object in place (what a shallow `mk_copy` leads to) -/
def prog_commitInPlace : List Act := [.acq 1, .acq 0, .rdV, .rdC, .incV, .mutate 1, .rel 0, .rel 1]

/-- version read outside the critical section: the schedule "request up to the release, whole transaction, rest of
    the request" ends with MdibVersion 1 and the content of version 0, which was never published together -/
theorem version_after_release_tears :
    ¬ WellLocked prog_versionAfterRelease ∧
    let c := (runSched (mkCfg [prog_versionAfterRelease, prog_commit] 0 0 0) [0, 0, 0, 1, 1, 1, 1, 1, 1, 1, 1, 0, 0]).1
    (c.thr 0).todo = [] ∧ (c.thr 0).obsV = [1] ∧ (c.thr 0).obsC = [0] ∧
    c.hist = [(0, 0, 0), (0, 0, 0), (1, 0, 1)] ∧ ¬ ∃ p ∈ c.hist, Consistent (c.thr 0) p := by
  refine ⟨by decide, ?_⟩
  simp only [Consistent]
  decide +kernel

/-- in-place mutation of a published state object: a WellLocked request that serialises after the release reports
    MdibVersion 0 with the content of version 1 -/
theorem mutation_tears :
    WellLocked Generated.prog_getMdState_all ∧ ¬ NoMutate prog_commitInPlace ∧
    let c := (runSched (mkCfg [Generated.prog_getMdState_all, prog_commitInPlace] 0 0 0)
                [0, 0, 0, 0, 1, 1, 1, 1, 1, 1, 1, 1, 0]).1
    (c.thr 0).todo = [] ∧ (c.thr 0).obsV = [0] ∧ (c.thr 0).obsC = [1] ∧
    ¬ ∃ p ∈ c.hist, Consistent (c.thr 0) p := by
  refine ⟨by decide, by decide, ?_⟩
  simp only [Consistent]
  decide +kernel

/-- a transaction that changes a state without incrementing `mdib_version` makes one version stand for two contents -/
def prog_silentWrite : List Act := [.acq 1, .acq 0, .wrC 9, .rel 0, .rel 1]

theorem silent_write_breaks_versions :
    WellLocked prog_silentWrite ∧ ¬ Committing prog_silentWrite ∧
    (runSched (mkCfg [prog_silentWrite] 0 0 0) [0, 0, 0, 0, 0]).1.hist = [(0, 0, 0), (0, 0, 9)] := by
  decide +kernel

/-! ### non-vacuity: an initial configuration with generated programs and a run in which both threads finish -/

example : Init (mkCfg [Generated.prog_getMdState_handles, Generated.prog_metricTx] 5 2 7) := by
  refine ⟨fun _ => rfl, rfl, by decide, fun j => ⟨rfl, rfl, rfl, rfl, rfl⟩⟩

example :
    let c := (runSched (mkCfg [Generated.prog_getMdState_handles, Generated.prog_metricTx] 5 2 7)
      [0, 0, 1, 1, 0, 0, 1, 1, 1, 1, 1, 1, 1, 1, 1, 0]).1
    (c.thr 0).todo = [] ∧ (c.thr 1).todo = [] ∧ (c.thr 0).obsV = [5] ∧ (c.thr 0).obsC = [7] ∧
    c.hist = [(5, 2, 7), (5, 2, 7), (6, 2, 1)] := by
  decide +kernel

end Sdc.C07
