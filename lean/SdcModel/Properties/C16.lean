import SdcModel.Location
import SdcModel.LocationSearch
import SdcModel.Proofs.Location
import SdcModel.Proofs.Discovery
/-!
# C16 — location scopes round-trip; location filtering tolerates foreign scopes
Property theorems only. Model: `SdcModel/Location.lean` (+ `Basic/Percent`, `Basic/Utf8`, `Basic/Url`), compared with
`sdc11073.location.SdcLocation`, `scopesfactory.mk_scopes` and `LocationContextStateContainer.update_from_sdc_location`
on every run. Strings are UTF-8 byte lists, `Loc.valid` says that all of them are Unicode strings, `none` is `None`.
`chk` stands for the two library checks inside `urlsplit` (ipaddress / NFKC); every theorem holds for every `chk`.
-/
namespace Sdc.C16
open Sdc.Location Sdc.Percent Sdc.Url

/-- **Round trip.** A location converted to its scope string and parsed back is the same location: every root except
    the empty one, every present/absent pattern, arbitrary Unicode values (the empty string included, reserved URL
    characters and non-ASCII included). -/
theorem scope_roundtrip (chk : Bytes → Bool) (l : Loc) (hv : l.valid = true) (hroot : l.root ≠ []) :
    fromScopeString chk (scopeString l) = .ok l :=
  parse_assembled chk quotePlus quoteOk_quotePlus l.root (join [37, 50, 70] (quotedElems l)) l hv (valid_parts hv).1 hroot
    (forall_mem_join (by decide) (quoted_elems_safe hv))

/-- The hypothesis `root ≠ ""` of `scope_roundtrip` is needed: with an empty root the path starts with `//`, which
    `urlsplit` reads as a netloc, and parsing raises `ValueError`. -/
theorem scope_roundtrip_needs_root :
    fromScopeString (fun _ => true) (scopeString ⟨[], some [97], none, none, none, none, none⟩) = .error .valueError := by
  decide +kernel

/-- A provider publishes a location scope exactly when at least one element is a non-empty string
    (`_loc_extension_segment` rejects `'/////'`). -/
theorem published_defined_iff (l : Loc) (hv : l.valid = true) : (∃ s, published l = .ok s) ↔ ¬ AllEmpty l := by
  rw [published_eq, locExtension_eq, ← ext_eq_slashes_iff hv]
  split
  · rename_i h
    exact ⟨fun ⟨_, e⟩ => (nomatch e), fun n => absurd h n⟩
  · rename_i h
    exact ⟨fun _ => h, fun _ => ⟨_, rfl⟩⟩

/-- **Round trip of the published scope.** What `update_from_sdc_location` + `mk_scopes` publish parses back to the
    same six elements under the fixed root `sdc.ctxt.loc.detail`. -/
theorem published_roundtrip (chk : Bytes → Bool) (l : Loc) (hv : l.valid = true) (s : Bytes)
    (hp : published l = .ok s) : fromScopeString chk s = .ok { l with root := defaultRoot } := by
  rw [published_eq, locExtension_eq] at hp
  split at hp
  · cases hp
  · cases hp
    exact (congrArg (fromScopeString chk) (contextScope_eq _ _ _ (ext_ne_nil l))).trans
      (parse_assembled chk quote quoteOk_quote defaultRoot _ l hv (by decide) (by decide) (quote_quoted _ (ext_lt hv)))

/-- **Inside exactly the enclosing locations.** The published scope is recognised as inside `enc` if and only if
    `enc` has the published root and agrees with the location on every element `enc` specifies. -/
theorem published_inside (chk : Bytes → Bool) (l enc : Loc) (hv : l.valid = true) (s : Bytes)
    (hp : published l = .ok s) :
    scopeStringMatches chk enc s = .ok true ↔ Encloses enc { l with root := defaultRoot } := by
  rw [scopeStringMatches_of_parse enc (published_roundtrip chk l hv s hp), Except.ok.injEq]
  exact contains_iff _ _

/-- … inside that location itself — for a location with the root `sdc.ctxt.loc.detail` (the constructor default, and the
    root GLUE prescribes for the fallback identifier). This is the part of the full statement the code satisfies. -/
theorem published_inside_self_partial (chk : Bytes → Bool) (l : Loc) (hv : l.valid = true) (hr : l.root = defaultRoot)
    (s : Bytes) (hp : published l = .ok s) : scopeStringMatches chk l s = .ok true :=
  (published_inside chk l l hv s hp).mpr ⟨hr, Or.inr rfl, Or.inr rfl, Or.inr rfl, Or.inr rfl, Or.inr rfl, Or.inr rfl⟩

/-- the statement at full strength: *every* location recognises the scope a provider publishes for it as inside itself -/
def published_inside_self_full : Prop :=
  ∀ (chk : Bytes → Bool) (l : Loc) (s : Bytes), l.valid = true → published l = .ok s → scopeStringMatches chk l s = .ok true

/-- It is false of the current code (known finding `published-not-inside-own-location:non-default-root`): the deprecated
    `SdcLocation.root` can be set to something else, `update_from_sdc_location` always publishes the identifier root
    `sdc.ctxt.loc.detail`, and `__contains__` compares roots. Witness: `SdcLocation(fac='a', root='r')`. -/
theorem published_inside_self_full_fails : ¬ published_inside_self_full := by
  intro h
  have hp : published ⟨[114], some [97], none, none, none, none, none⟩ = .ok _ := rfl
  have := (published_inside (fun _ => true) _ _ (by decide) _ hp).mp (h _ _ _ (by decide) hp)
  exact absurd this.1 (by decide)

/-- … inside every enclosing (less specific) location: drop any subset of the elements -/
theorem published_inside_enclosing (chk : Bytes → Bool) (l : Loc) (hv : l.valid = true) (s : Bytes)
    (hp : published l = .ok s) (k1 k2 k3 k4 k5 k6 : Bool) :
    scopeStringMatches chk
      ⟨defaultRoot, if k1 then l.fac else none, if k2 then l.bldng else none, if k3 then l.flr else none,
        if k4 then l.poc else none, if k5 then l.rm else none, if k6 then l.bed else none⟩ s = .ok true :=
  (published_inside chk l _ hv s hp).mpr
    ⟨rfl, ite_none_or k1 _, ite_none_or k2 _, ite_none_or k3 _, ite_none_or k4 _, ite_none_or k5 _, ite_none_or k6 _⟩

/-- … and inside no location that differs in a specified element (or in the root) -/
theorem published_outside_differing (chk : Bytes → Bool) (l enc : Loc) (hv : l.valid = true) (s : Bytes)
    (hp : published l = .ok s)
    (hd : enc.root ≠ defaultRoot ∨ (∃ v, enc.fac = some v ∧ l.fac ≠ some v) ∨ (∃ v, enc.bldng = some v ∧ l.bldng ≠ some v) ∨
      (∃ v, enc.flr = some v ∧ l.flr ≠ some v) ∨ (∃ v, enc.poc = some v ∧ l.poc ≠ some v) ∨
      (∃ v, enc.rm = some v ∧ l.rm ≠ some v) ∨ (∃ v, enc.bed = some v ∧ l.bed ≠ some v)) :
    scopeStringMatches chk enc s = .ok false := by
  have hne : ¬ Encloses enc { l with root := defaultRoot } := by
    rintro ⟨h0, h1, h2, h3, h4, h5, h6⟩
    rcases hd with h | ⟨v, e, n⟩ | ⟨v, e, n⟩ | ⟨v, e, n⟩ | ⟨v, e, n⟩ | ⟨v, e, n⟩ | ⟨v, e, n⟩
    · exact h h0
    · exact not_elem_encloses e n h1
    · exact not_elem_encloses e n h2
    · exact not_elem_encloses e n h3
    · exact not_elem_encloses e n h4
    · exact not_elem_encloses e n h5
    · exact not_elem_encloses e n h6
  rw [scopeStringMatches_of_parse enc (published_roundtrip chk l hv s hp)]
  exact congrArg _ (Bool.eq_false_iff.mpr (mt (contains_iff _ _).mp hne))

/-- The same for the scope string an `SdcLocation` makes itself (any non-empty root): inside `enc` iff `enc` encloses it. -/
theorem scope_string_inside (chk : Bytes → Bool) (l enc : Loc) (hv : l.valid = true) (hroot : l.root ≠ []) :
    scopeStringMatches chk enc (scopeString l) = .ok true ↔ Encloses enc l := by
  rw [scopeStringMatches_of_parse enc (scope_roundtrip chk l hv hroot), Except.ok.injEq]
  exact contains_iff _ _

/-- **Totality.** For an arbitrary scope string (any bytes: any scheme, any number of path segments, malformed query)
    `_scope_string_matches` returns a Boolean; no exception class of `from_scope_string` escapes. -/
theorem filter_total (chk : Bytes → Bool) (self : Loc) (s : Bytes) : ∃ b, scopeStringMatches chk self s = .ok b := by
  unfold scopeStringMatches
  split
  · exact ⟨_, rfl⟩
  · exact ⟨_, rfl⟩
  · exact ⟨_, rfl⟩

/-- what `_scope_string_matches` answers: the scope parses to a location that is contained -/
def insideScope (chk : Bytes → Bool) (self : Loc) (s : Bytes) : Bool :=
  match fromScopeString chk s with
  | .ok other => contains self other
  | .error _ => false

/-- **Filtering never fails** and keeps exactly the services with at least one scope inside, whatever scope strings
    the services carry (`scopesOf s = none`: the service has no scopes element). -/
theorem filter_services_total {α : Type} (chk : Bytes → Bool) (self : Loc) (scopesOf : α → Option (List Bytes))
    (services : List α) :
    filterInside chk self scopesOf services =
      .ok (services.filter fun s => match scopesOf s with
        | none => false
        | some scopes => scopes.any (insideScope chk self)) := by
  have hm : ∀ s, scopeStringMatches chk self s = .ok (insideScope chk self s) := by
    intro s
    unfold scopeStringMatches insideScope
    cases fromScopeString chk s with
    | ok other => rfl
    | error e => cases e <;> rfl
  have hany : ∀ scopes, anyMatches chk self scopes = .ok (scopes.any (insideScope chk self)) := by
    intro scopes
    induction scopes with
    | nil => rfl
    | cons s rest ih =>
      unfold anyMatches
      rw [hm s, List.any_cons]
      cases insideScope chk self s with
      | true => rfl
      | false => exact ih
  induction services with
  | nil => rfl
  | cons s rest ih =>
    unfold filterInside
    rw [ih]
    cases hs : scopesOf s with
    | none => simp only [serviceMatches, List.filter_cons, hs]
    | some scopes =>
      simp only [serviceMatches, hany, List.filter_cons, hs]

/-- **An update overwrites everything.** Whatever the state held before (other elements, other values), after a
    successful `update_from_sdc_location(l)` the published scope is the one of `l`: nothing of an earlier location survives. -/
theorem published_after_update (st : LocState) (l : Loc) (s : Bytes) (hp : published l = .ok s) :
    (updateFromLocation st l).2 = none ∧ publishedOfState (updateFromLocation st l).1 = .ok s := by
  unfold published at hp
  unfold updateFromLocation
  cases he : locExtension l with
  | error e =>
    rw [he] at hp
    cases hp
  | ok ext =>
    rw [he] at hp
    cases hp
    exact ⟨rfl, rfl⟩

/-- the last location of a history that can be published (at least one non-empty element) -/
def lastGood : List Loc → Option Loc
  | [] => none
  | l :: ls => (lastGood ls).or (match locExtension l with | .ok _ => some l | .error _ => none)

/-- **The published scope follows the associated location.** After every history of location changes made through MDIB
    transactions (`set_location`, updates of the existing state; rejected ones roll back) the published scope is exactly
    the scope of the last accepted location — independent of all earlier ones. -/
theorem published_after_history (st : LocState) (ls : List Loc) :
    publishedOfState (runTx st ls) =
      match lastGood ls with
      | some l => published l
      | none => publishedOfState st := by
  induction ls generalizing st with
  | nil => rfl
  | cons l ls ih =>
    simp only [runTx, List.foldl_cons] at ih ⊢
    rw [ih]
    simp only [lastGood]
    cases lastGood ls with
    | some l' => rfl
    | none =>
      simp only [Option.none_or]
      unfold txUpdate updateFromLocation published
      cases he : locExtension l with
      | error e => rfl
      | ok ext =>
        simp only [he]
        rfl

/-- … hence after any history whose last accepted location is `l` the provider is recognised inside exactly the
    locations enclosing `l` (stale elements of earlier locations play no role). -/
theorem inside_after_history (chk : Bytes → Bool) (st : LocState) (ls : List Loc) (l enc : Loc) (hl : lastGood ls = some l)
    (hv : l.valid = true) (s : Bytes) (hs : publishedOfState (runTx st ls) = .ok s) :
    scopeStringMatches chk enc s = .ok true ↔ Encloses enc { l with root := defaultRoot } := by
  rw [published_after_history, hl] at hs
  exact published_inside chk l enc hv s hs

/-! ### the public entry point `WSDiscovery.search_sdc_device_services_in_location` -/

open Sdc.Discovery Sdc.LocationSearch in
/-- a discovered service is inside `self`: one of its scopes parses to a contained location -/
def insideService (chk : Bytes → Bool) (self : Loc) (s : Discovery.Service) : Bool :=
  match LocationSearch.scopesOf s with
  | none => false
  | some scopes => scopes.any (insideScope chk self)

open Sdc.Discovery Sdc.LocationSearch in
/-- **Search by location is exact.** For every table of discovered services (each with a types list, as the message
    handlers construct them) the search returns exactly the services that offer all SDC device types and have at least
    one scope inside the searched location — whatever other scopes (foreign, malformed, several location scopes in any
    order) they carry; nothing is matched with the WS-Discovery prefix rule. -/
theorem search_in_location_exact (chk : Bytes → Bool) (r : Rules) (self : Loc) (deviceTypes : List QName)
    (remote : List Discovery.Service) (hT : ∀ s ∈ remote, s.types ≠ none) :
    searchInLocation chk r self deviceTypes remote =
      .ok (remote.filter fun s => deviceTypes.all (offersType s) && insideService chk self s) := by
  unfold searchInLocation
  have hc : ∀ s ∈ remote, Comparable chk r none s := fun s hs => ⟨hT s hs, fun sc h => by cases h⟩
  rw [filterServices_total (some deviceTypes) hc]
  simp only [filter_services_total, List.filter_filter]
  congr 1
  apply List.filter_congr
  intro s _
  simp only [wanted, insideService, Bool.true_and, Bool.and_comm]

open Sdc.Discovery Sdc.LocationSearch in
/-- … so a device that publishes the scope of its location `l` is found by a search for every enclosing location, -/
theorem search_finds_published (chk : Bytes → Bool) (r : Rules) (enc l : Loc) (deviceTypes : List QName)
    (remote : List Discovery.Service) (hT : ∀ s ∈ remote, s.types ≠ none) (hv : l.valid = true)
    (s : Discovery.Service) (hs : s ∈ remote) (hty : deviceTypes.all (offersType s) = true)
    (sc : Scopes) (hsc : s.scopes = some sc) (p : Bytes) (hp : published l = .ok p) (hmem : p ∈ sc.text)
    (henc : Encloses enc { l with root := defaultRoot }) :
    ∃ res, searchInLocation chk r enc deviceTypes remote = .ok res ∧ s ∈ res := by
  refine ⟨_, search_in_location_exact chk r enc deviceTypes remote hT, ?_⟩
  simp only [List.mem_filter, Bool.and_eq_true]
  refine ⟨hs, hty, ?_⟩
  simp only [insideService, scopesOf, hsc, Option.map_some, List.any_eq_true]
  refine ⟨p, hmem, ?_⟩
  unfold insideScope
  rw [published_roundtrip chk l hv p hp]
  exact (contains_iff _ _).mpr henc

open Sdc.Discovery Sdc.LocationSearch in
/-- … and by no search for a location that does not enclose it (when its other scopes are not inside either). -/
theorem search_excludes_elsewhere (chk : Bytes → Bool) (r : Rules) (enc l : Loc) (deviceTypes : List QName)
    (remote : List Discovery.Service) (hT : ∀ s ∈ remote, s.types ≠ none) (hv : l.valid = true)
    (s : Discovery.Service) (sc : Scopes) (hsc : s.scopes = some sc) (p : Bytes) (hp : published l = .ok p)
    (hother : ∀ q ∈ sc.text, q = p ∨ insideScope chk enc q = false)
    (henc : ¬ Encloses enc { l with root := defaultRoot }) (res : List Discovery.Service)
    (hres : searchInLocation chk r enc deviceTypes remote = .ok res) : s ∉ res := by
  rw [search_in_location_exact chk r enc deviceTypes remote hT] at hres
  simp only [Except.ok.injEq] at hres
  subst hres
  simp only [List.mem_filter, Bool.and_eq_true, not_and]
  intro _ _
  simp only [insideService, scopesOf, hsc, Option.map_some, List.any_eq_true, not_exists, not_and]
  intro q hq
  rcases hother q hq with rfl | h
  · unfold insideScope
    rw [published_roundtrip chk l hv q hp]
    intro hc
    exact henc ((contains_iff _ _).mp hc)
  · rw [h]
    nofun

/-! ### non-vacuity: concrete instances of the hypotheses -/

/-- `SdcLocation(fac='HO/SP 1', poc='', bed='Bé+d%', root='my root/x')`: reserved characters, space, plus, percent,
    non-ASCII, an empty (present) element and absent ones -/
def exLoc : Loc :=
  ⟨[109, 121, 32, 114, 111, 111, 116, 47, 120], some [72, 79, 47, 83, 80, 32, 49], none, none, some [], none,
    some [66, 195, 169, 43, 100, 37]⟩

example : exLoc.valid = true ∧ exLoc.root ≠ [] := by decide
example : fromScopeString (fun _ => false) (scopeString exLoc) = .ok exLoc := by decide +kernel
example : ∃ s, published exLoc = .ok s ∧ scopeStringMatches (fun _ => true) { exLoc with root := defaultRoot, poc := none } s = .ok true := by
  refine ⟨_, rfl, ?_⟩; decide +kernel
example : ¬ AllEmpty exLoc := by unfold AllEmpty; decide
/-- A (room and bed) -> B (less specific) -> rejected empty location: the published scope is the one of B, no `rm`/`bed` -/
example : publishedOfState (runTx LocState.fresh
    [⟨defaultRoot, some [72], none, none, some [67], some [82, 55], some [66]⟩, ⟨defaultRoot, some [72], none, none, some [67], none, none⟩,
     ⟨defaultRoot, none, none, none, none, none, none⟩])
    = published ⟨defaultRoot, some [72], none, none, some [67], none, none⟩ := by decide +kernel
/-- a foreign scope with a two-segment path: no match, no exception -/
example : scopeStringMatches (fun _ => true) exLoc (scheme ++ [58, 47, 114, 111, 111, 116]) = .ok false := by decide +kernel

end Sdc.C16
