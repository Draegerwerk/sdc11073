import SdcModel.Reports
import SdcModel.Proofs.Reports
import SdcModel.Proofs.SendOrder
import SdcModel.Proofs.SendComplete
import SdcModel.Generated.WriterProg
/-!
# C04 — reports are complete, truthful and delivered in version order (property theorems)
Model: `SdcModel/Reports.lean` (report construction from a TransactionResult), `SdcModel/SendOrder.lean`
(interleaving semantics of writer threads); writer programs: `Generated/WriterProg.lean` (traced from the real commit path).
-/
namespace Sdc.C04
open Sdc.Mdib Sdc.SendOrder

/-- every report of a transaction carries exactly the committed version group -/
theorem reports_carry_version_group (t : Tables) (vg : VersionGroup) (r : TxResult) :
    ∀ rep ∈ mkReports t vg r, rep.vg = vg := by
  intro rep h
  rcases mem_mkReports h with rfl | ⟨_, _, rfl⟩ | rfl <;> rfl

/-- an empty transaction result produces no report at all -/
theorem no_report_without_change (t : Tables) (vg : VersionGroup) : mkReports t vg {} = [] := by
  simp [mkReports, stateReport]

def Rep.sStates : Rep → List SState
  | .states _ _ parts => parts.flatMap (·.2)
  | _ => []
def Rep.cStates : Rep → List CState
  | .ctx _ parts => parts.flatMap (·.2)
  | _ => []

theorem stateReport_sStates (t : Tables) (vg : VersionGroup) (k : ReportKind) (l : List SState) :
    ((stateReport t vg k l).flatMap Rep.sStates).Perm l := by
  unfold stateReport
  split
  · rename_i h; simp at h; subst h; simp
  · simpa [Rep.sStates] using (groupBy_grouped (fun s => (mdsOfState t s.dh).getD 0) l).flat

theorem stateReport_cStates (t : Tables) (vg : VersionGroup) (k : ReportKind) (l : List SState) :
    (stateReport t vg k l).flatMap Rep.cStates = [] := by
  unfold stateReport; split <;> simp [Rep.cStates]

/-- completeness and truthfulness of the episodic reports: the single states transported by the state reports of a
    transaction are exactly the states of its result — nothing lost, nothing invented, nothing twice -/
theorem episodic_reports_exact (t : Tables) (vg : VersionGroup) (r : TxResult) :
    ((mkReports t vg r).flatMap Rep.sStates).Perm r.allS := by
  -- the description report and the context report carry no single states
  have hd : ∀ (c : Prop) [Decidable c] (parts : List DPart), (if c then [] else [Rep.descr vg parts]).flatMap Rep.sStates = [] := by
    intro c _ parts; split <;> rfl
  have hc : ∀ (c : Prop) [Decidable c] (parts : List (Handle × List CState)),
      (if c then [] else [Rep.ctx vg parts]).flatMap Rep.sStates = [] := by
    intro c _ parts; split <;> rfl
  simp only [mkReports, List.flatMap_append, TxResult.allS]
  rw [hd, hc, List.nil_append, List.append_nil]
  exact ((((stateReport_sStates t vg .metric r.metric).append (stateReport_sStates t vg .alert r.alert)).append
    (stateReport_sStates t vg .component r.comp)).append (stateReport_sStates t vg .operational r.op)).append
    (stateReport_sStates t vg .waveform r.rt)

/-- the same for context states -/
theorem context_report_exact (t : Tables) (vg : VersionGroup) (r : TxResult) :
    ((mkReports t vg r).flatMap Rep.cStates).Perm r.ctx := by
  simp only [mkReports, List.flatMap_append, stateReport_cStates, List.append_nil]
  have hd : ∀ (c : Prop) [Decidable c] (parts : List DPart), (if c then [] else [Rep.descr vg parts]).flatMap Rep.cStates = [] := by
    intro c _ parts; split <;> rfl
  rw [hd, List.nil_append]
  split
  · rename_i h; rw [List.isEmpty_iff.1 h]; exact .refl _
  · rw [List.flatMap_singleton]; exact (groupBy_grouped _ r.ctx).flat

/-- grouped under the MDS they belong to: within a state report every part holds states of one MDS (its SourceMds),
    and no two parts of a report have the same MDS -/
theorem parts_grouped_by_mds (t : Tables) (vg : VersionGroup) (k : ReportKind) (l : List SState)
    (parts : List (Handle × List SState)) (h : stateReport t vg k l = [.states k vg parts])
    (hm : allHaveMds t (l.map (·.dh)) = true) :
    (∀ p ∈ parts, ∀ s ∈ p.2, mdsOfState t s.dh = some p.1) ∧ (parts.map (·.1)).Nodup := by
  have e := mem_stateReport (h ▸ List.mem_singleton_self _)
  simp only [Rep.states.injEq, true_and] at e
  subst e
  have G := groupBy_grouped (fun s : SState => (mdsOfState t s.dh).getD 0) l
  refine ⟨fun p hp s hs => ?_, G.nodup⟩
  have hk : (mdsOfState t s.dh).getD 0 = p.1 := G.keysOK p hp s hs
  have hl : s ∈ l := G.flat.subset (List.mem_flatMap.mpr ⟨p, hp, hs⟩)
  -- `s` has a source mds, so the default `0` of the grouping key is not used
  have hs' : (mdsOfState t s.dh).isSome = true :=
    List.all_eq_true.1 hm s.dh (List.mem_map_of_mem hl)
  obtain ⟨m, hmm⟩ := Option.isSome_iff_exists.mp hs'
  rw [hmm] at hk ⊢
  exact congrArg some hk

/-- description modification report: one part per descriptor, updated then created then deleted, each with exactly
    the result states of that descriptor -/
theorem description_parts_exact (t : Tables) (vg : VersionGroup) (r : TxResult) (parts : List DPart)
    (h : Rep.descr vg parts ∈ mkReports t vg r) :
    parts.map (fun p => (p.mod, p.descr)) =
      r.descrUpdated.map (fun d => (ModType.update, d)) ++ r.descrCreated.map (fun d => (ModType.create, d))
        ++ r.descrDeleted.map (fun d => (ModType.delete, d))
    ∧ ∀ p ∈ parts, p.parent = p.descr.parent ∧ p.mds = p.descr.mds
        ∧ p.states = r.allS.filter (fun s => s.dh == p.descr.handle) := by
  rcases mem_mkReports h with e | ⟨_, _, e⟩ | e
  · simp only [Rep.descr.injEq, true_and] at e
    subst e
    refine ⟨?_, ?_⟩
    · simp only [List.map_append, List.map_map]; rfl
    · intro p hp
      simp only [List.mem_append, List.mem_map] at hp
      rcases hp with (⟨d, _, rfl⟩ | ⟨d, _, rfl⟩) | ⟨d, _, rfl⟩ <;> exact ⟨rfl, rfl, rfl⟩
  · exact nomatch e
  · exact nomatch e

/-- Under ANY interleaving of ANY number of writer threads whose programs keep the version write and the sends inside one
    critical section of the mdib lock, the versions handed to a subscription manager are in non-decreasing order. -/
theorem delivery_ordered (c₀ c : Cfg) (ho : ∀ l, c₀.owner l = none) (hl : c₀.log = [])
    (hp : ∀ i, WellLocked (c₀.thr i).prog) (hr : Reach c₀ c) : c.log.Pairwise (· ≤ ·) :=
  (good_reach (good_init c₀ ho hl hp) hr).sorted

/-- a subscriber receives a sub-sequence (its filter, its liveness) of what the manager was handed: still ordered -/
theorem subscriber_view_ordered (c₀ c : Cfg) (ho : ∀ l, c₀.owner l = none) (hl : c₀.log = [])
    (hp : ∀ i, WellLocked (c₀.thr i).prog) (hr : Reach c₀ c) (view : List Nat) (hv : view.Sublist c.log) :
    view.Pairwise (· ≤ ·) :=
  (delivery_ordered c₀ c ho hl hp hr).sublist hv

/-- every version that was sent had been committed -/
theorem sent_versions_committed (c₀ c : Cfg) (ho : ∀ l, c₀.owner l = none) (hl : c₀.log = [])
    (hp : ∀ i, WellLocked (c₀.thr i).prog) (hr : Reach c₀ c) : ∀ v ∈ c.log, v ≤ c.ver :=
  (good_reach (good_init c₀ ho hl hp) hr).bound

/-- ... and none is skipped: when every writer program sends after each version write inside the same critical section
    (`Complete`), then under ANY interleaving, once all writers have finished, every version committed since the start has been
    handed to the subscription managers -/
theorem every_commit_reported (c₀ c : Cfg) (ho : ∀ l, c₀.owner l = none) (hl : c₀.log = [])
    (hp : ∀ i, WellLocked (c₀.thr i).prog) (hc : ∀ i, Complete (c₀.thr i).prog) (hr : Reach c₀ c)
    (hdone : ∀ i, (c.thr i).prog = []) : ∀ v, c₀.ver < v → v ≤ c.ver → v ∈ c.log := by
  intro v h1 h2
  -- a thread that has finished has nothing pending
  refine ((cov_reach (good_init c₀ ho hl hp) (cov_init c₀ hc) hr).cov v h1 h2).resolve_right fun ⟨_, i, h, _⟩ => ?_
  rw [hdone i] at h
  cases h

/-- together with `delivery_ordered`: the handed-over versions are exactly the committed ones, in order (a gap-free run) -/
theorem reports_gap_free (c₀ c : Cfg) (ho : ∀ l, c₀.owner l = none) (hl : c₀.log = [])
    (hp : ∀ i, WellLocked (c₀.thr i).prog) (hc : ∀ i, Complete (c₀.thr i).prog) (hr : Reach c₀ c)
    (hdone : ∀ i, (c.thr i).prog = []) :
    c.log.Pairwise (· ≤ ·) ∧ (∀ v ∈ c.log, v ≤ c.ver) ∧ (∀ v, c₀.ver < v → v ≤ c.ver → v ∈ c.log) :=
  ⟨delivery_ordered c₀ c ho hl hp hr, sent_versions_committed c₀ c ho hl hp hr,
   every_commit_reported c₀ c ho hl hp hc hr hdone⟩

/-- the traced writer programs send after every version write -/
theorem generated_writers_complete : Complete Generated.writerSync ∧ Complete Generated.writerAsync := by decide

example : ¬ Complete [.acq 0, .acq 1, .incVer, .rel 1, .rel 0] := by decide

/-- the writer programs traced from the real commit path (sync and async subscription managers) are well-locked -/
theorem generated_writers_wellLocked :
    WellLocked Generated.writerSync ∧ WellLocked Generated.writerAsync := by decide

/-- the hypothesis is not vacuous and it matters: a writer that sends after releasing the lock is rejected -/
example : ¬ WellLocked [.acq 0, .acq 1, .incVer, .rel 1, .send, .rel 0] := by decide
example : WellLocked [.acq 0, .acq 1, .incVer, .send, .send, .rel 1, .rel 0] := by decide

end Sdc.C04
