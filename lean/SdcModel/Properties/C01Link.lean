import SdcModel.Proofs.MdibLinkDescribe
import SdcModel.Proofs.MdibLinkSC
import SdcModel.Proofs.MdibLinkD
import SdcModel.Properties.C01
/-!
# C01 link — the provider model satisfies the consumer contract `ReportsDescribe`

`absCore t q i` = provider tables as the consumer contract sees them (version group ⟨MdibVersion, SequenceId `q`,
InstanceId `i`⟩), `toReports t' vg r` = the notifications `mkReports` builds from the TransactionResult `r`, flattened to
the reports the consumer model takes.  Helper lemmas: `Proofs/MdibLink*.lean` (the 22 clauses of `describeClauses` are
derived from `PFacts`, facts about one committed transaction, in `MdibLinkDescribe.lean`).
-/
namespace Sdc.C01
open Sdc.Mdib Sdc.Consumer

/-- a committed state transaction (any of the five kinds) is described exactly by its reports -/
theorem provider_reports_describe_state (t t' : Mdib.Tables) (r : TxResult) (s : SScript) (q : Nat) (i : Option Nat) (hw : WF t)
    (hk : s.kind ≠ .context) (h : runS t s = (t', r, .committed)) :
    ReportsDescribe (absCore t q i) (absCore t' q i) (toReports t' ⟨t'.ver, q, i⟩ r) :=
  describe_of_facts (pfacts_state hw hk h) q i

/-- a committed context state transaction that deletes no context state (`NoDel`; a deleted context state cannot be
    reported, `unreported_change_excluded`) and uses fresh generated handles is described exactly by its reports -/
theorem provider_reports_describe_context (t t' : Mdib.Tables) (r : TxResult) (s : CScript) (q : Nat) (i : Option Nat) (hw : WF t)
    (hf : FreshUuids t s) (hnd : NoDel s) (h : runC t s = (t', r, .committed)) :
    ReportsDescribe (absCore t q i) (absCore t' q i) (toReports t' ⟨t'.ver, q, i⟩ r) :=
  describe_of_facts (pfacts_context hw hf hnd h) q i

/-- the `NoDel` hypothesis is needed: the deletion of a context state is in no report -/
theorem context_delete_not_described :
    ∃ (t : Mdib.Tables) (s : CScript), WF t ∧ FreshUuids t s ∧ (runC t s).2.2 = .committed ∧
      reportsDescribe (absCore t 1 none) (absCore (runC t s).1 1 none) (toReports (runC t s).1 ⟨(runC t s).1.ver, 1, none⟩ (runC t s).2.1) = false :=
  ⟨{ ver := 1, descrs := [⟨4, none, .context, 0, 0, some 4⟩],
     ctx := [{ h := 10, dh := 4, dv := 0, sv := 2, body := 0, assoc := .no, bindV := none, unbindV := none, bindT := none, unbindT := none },
             { h := 11, dh := 4, dv := 0, sv := 0, body := 0, assoc := .no, bindV := none, unbindV := none, bindT := none, unbindT := none }] },
   ⟨[.del 10, .get 11], false, false⟩, by decide +kernel⟩

/-- a committed descriptor transaction (classic and entity interface: create / update / delete in any combination, with
    the states that follow) is described exactly by its reports - under the kind discipline `KOK`, well-formed entities
    `DScriptOK`, and `DLinkOK`: the transaction the script collects removes subtrees bottom-up with one `remove_descriptor`
    per descriptor (clause `flat`, `partsDistinct`), its updates keep parent / source mds (clause `updated`), and
    `write_entity` deletes no context state (clause `cstateRemoved`) -/
theorem provider_reports_describe_descriptor_partial (t t' : Mdib.Tables) (r : TxResult) (s : DScript) (q : Nat) (i : Option Nat)
    (hw : WF t) (hk : KOK t) (hs : DScriptOK t s) (hl : DLinkOK t s) (h : runD t s = (t', r, .committed)) :
    ReportsDescribe (absCore t q i) (absCore t' q i) (toReports t' ⟨t'.ver, q, i⟩ r) :=
  describe_of_facts (pfacts_descriptor hw hk s hs hl h) q i

def lT : Mdib.Tables where
  ver := 5
  descrs := [⟨1, none, .component, 3, 0, some 1⟩, ⟨3, some 1, .metric, 1, 0, some 1⟩, ⟨4, some 1, .context, 1, 0, some 1⟩]
  states := [⟨1, 3, 4, .component, 0⟩, ⟨3, 1, 0, .metric, 0⟩]
  ctx := [{ h := 10, dh := 4, dv := 1, sv := 2, body := 0, assoc := .assoc, bindV := none, unbindV := none, bindT := none, unbindT := none }]
  cSaved := [(12, 3)]

def lCS : CState :=
  { h := 10, dh := 4, dv := 0, sv := 0, body := 7, assoc := .assoc, bindV := none, unbindV := none, bindT := none, unbindT := none }
def lD : DScript :=
  ⟨[.getDescr 1, .getState 1, .removeDescr 3, .addDescr ⟨6, some 1, .metric, 0, 9, none⟩ (some 2),
    .writeEntity ⟨4, some 1, .context, 0, 5, some 1⟩ none (some [lCS])], false, false⟩
def lS : SScript := ⟨.metric, [.get 3, .setBody 3 5], false, false⟩
def lC : CScript := ⟨[.get 10, .mk 4 11 false true 7 0], false, false⟩

example : WF lT ∧ lS.kind ≠ .context ∧ (runS lT lS).2.2 = .committed ∧ FreshUuids lT lC ∧ NoDel lC ∧ (runC lT lC).2.2 = .committed := by
  decide +kernel
example : reportsDescribe (absCore lT 7 none) (absCore (runS lT lS).1 7 none)
    (toReports (runS lT lS).1 ⟨(runS lT lS).1.ver, 7, none⟩ (runS lT lS).2.1) = true := by decide +kernel

/-- side conditions of one script (what the real API can be asked to do, see C02/C04): state scripts write no `context`
    kind states, context scripts use fresh generated handles and delete no state, descriptor scripts see
    `provider_reports_describe_descriptor_partial` -/
def LinkOK (t : Mdib.Tables) : Script → Prop
  | .s x => SKindOK t x
  | .c x => FreshUuids t x ∧ NoDel x
  | .d x => DScriptOK t x ∧ DLinkOK t x

instance (t : Mdib.Tables) (sc : Script) : Decidable (LinkOK t sc) := by
  cases sc <;> (unfold LinkOK; infer_instance)

def HistLinkOK : Mdib.Tables → List Script → Prop
  | _, [] => True
  | t, sc :: rest => LinkOK t sc ∧ HistLinkOK (runScript t sc).1 rest

instance : ∀ (t : Mdib.Tables) (h : List Script), Decidable (HistLinkOK t h)
  | _, [] => isTrue trivial
  | t, sc :: rest =>
    have := instDecidableHistLinkOK (runScript t sc).1 rest
    by unfold HistLinkOK; infer_instance

/-- the provider history as the consumer contract sees it: one entry (content after, reports) per committed transaction -/
def provHist (q : Nat) (i : Option Nat) : Mdib.Tables → List Script → History
  | _, [] => []
  | t, sc :: rest =>
    if (runScript t sc).2.2 = .committed then
      (absCore (runScript t sc).1 q i, toReports (runScript t sc).1 ⟨(runScript t sc).1.ver, q, i⟩ (runScript t sc).2.1) ::
        provHist q i (runScript t sc).1 rest
    else provHist q i (runScript t sc).1 rest

/-- one script: committed ⇒ described by its reports; otherwise nothing changed; the invariants are kept -/
theorem link_step (t : Mdib.Tables) (sc : Script) (q : Nat) (i : Option Nat) (hw : WF t) (hk : KOK t) (h : LinkOK t sc) :
    WF (runScript t sc).1 ∧ KOK (runScript t sc).1 ∧
    ((runScript t sc).2.2 = .committed →
      ReportsDescribe (absCore t q i) (absCore (runScript t sc).1 q i)
        (toReports (runScript t sc).1 ⟨(runScript t sc).1.ver, q, i⟩ (runScript t sc).2.1)) ∧
    ((runScript t sc).2.2 ≠ .committed → (runScript t sc).1 = t) := by
  -- not committed: empty, aborted or rejected (tables untouched), or died in the commit, where `dead` says what is left
  have unchanged (dead : (runScript t sc).2.2 = .commitFailed → (runScript t sc).1 = t)
      (hn : (runScript t sc).2.2 ≠ .committed) : (runScript t sc).1 = t := by
    by_cases hf : (runScript t sc).2.2 = .commitFailed
    · exact dead hf
    · refine runScript_unchanged t sc ?_
      revert hn hf
      cases (runScript t sc).2.2 <;> simp
  cases sc with
  | s x =>
    exact ⟨(runS_ok hw x).2, runS_kok hw hk x h,
      fun hc => provider_reports_describe_state t _ _ x q i hw h.1 (Prod.ext rfl (Prod.ext rfl hc)),
      unchanged fun hf => absurd hf (runS_ok hw x).1⟩
  | c x =>
    exact ⟨runC_wf hw x, runC_kok hw hk x,
      fun hc => provider_reports_describe_context t _ _ x q i hw h.1 h.2 (Prod.ext rfl (Prod.ext rfl hc)),
      unchanged fun hf => absurd hf (runC_ok hw x h.1)⟩
  | d x =>
    obtain ⟨ha, hwf, hkk⟩ := runD_ok hw hk x h.1
    exact ⟨hwf, hkk,
      fun hc => provider_reports_describe_descriptor_partial t _ _ x q i hw hk h.1 h.2 (Prod.ext rfl (Prod.ext rfl hc)),
      unchanged ha⟩

theorem provHist_describes (q : Nat) (i : Option Nat) : ∀ (hist : List Script) (t : Mdib.Tables), WF t → KOK t → HistLinkOK t hist →
    Describes (absCore t q i) (provHist q i t hist) ∧
    History.final (absCore t q i) (provHist q i t hist) = absCore (runHist t hist) q i := by
  intro hist
  induction hist with
  | nil => intro t _ _ _; exact ⟨trivial, rfl⟩
  | cons sc rest ih =>
    intro t hw hk h
    obtain ⟨w', k', hc, hn⟩ := link_step t sc q i hw hk h.1
    obtain ⟨d, f⟩ := ih _ w' k' h.2
    simp only [provHist, runHist]
    by_cases hcm : (runScript t sc).2.2 = .committed
    · simp only [hcm, if_true]
      exact ⟨⟨hc hcm, d⟩, f⟩
    · simp only [hcm, if_false]
      rw [hn hcm] at d f ⊢
      exact ⟨d, f⟩

/-- **end to end**: a consumer (model of `consumermdib.py`) that mirrors the provider (model of the provider transactions)
    and receives, in order, the reports the provider model emits for a history of transactions stays initialised and
    mirrors the provider tables after the history -/
theorem provider_consumer_mirror (t : Mdib.Tables) (hist : List Script) (q : Nat) (i : Option Nat) (s : St) (hw : WF t) (hk : KOK t)
    (h : HistLinkOK t hist) (hm : s.mode = .initialized) (hsw : s.core.tabs.Wf) (hM : Mirror s.core (absCore t q i)) :
    (run s ((provHist q i t hist).reports.map .report)).mode = .initialized ∧
    Mirror (run s ((provHist q i t hist).reports.map .report)).core (absCore (runHist t hist) q i) := by
  obtain ⟨d, f⟩ := provHist_describes q i hist t hw hk h
  have := mirror (provHist q i t hist) (absCore t q i) s d hm hsw hM
  rw [f] at this
  exact this

example : KOK lT ∧ DScriptOK lT lD ∧ DLinkOK lT lD ∧ (runD lT lD).2.2 = .committed := by decide +kernel
example : reportsDescribe (absCore lT 7 none) (absCore (runD lT lD).1 7 none)
    (toReports (runD lT lD).1 ⟨(runD lT lD).1.ver, 7, none⟩ (runD lT lD).2.1) = true := by decide +kernel
example : KOK lT ∧ HistLinkOK lT [.s lS, .d lD, .c lC, .s ⟨.component, [.get 1], false, false⟩] := by decide +kernel

/-- the restriction `KeepsParent` in `DLinkOK` is needed: an entity written with another parent is reported with that
    parent while the table keeps the old one (clause `updated`).
    (A context state dropped from an entity written through a descriptor transaction is no counterexample:
    `reportsDescribe` accepts a context state that disappears because the UPDATE part of its context descriptor
    does not list it — the consumer removes it, see `mirror_step` — so that restriction of `DLinkOK` is only sufficient.) -/
theorem descriptor_link_needs_restrictions :
    ∃ (t : Mdib.Tables) (s1 : DScript), WF t ∧ KOK t ∧ DScriptOK t s1 ∧
      (runD t s1).2.2 = .committed ∧
      reportsDescribe (absCore t 1 none) (absCore (runD t s1).1 1 none)
        (toReports (runD t s1).1 ⟨(runD t s1).1.ver, 1, none⟩ (runD t s1).2.1) = false :=
  ⟨lT, ⟨[.writeEntity ⟨3, none, .metric, 0, 5, some 1⟩ none none], false, false⟩, by decide +kernel⟩

/-- a context entity written without its states: the reports (UPDATE part that lists no state) describe the change -/
example : reportsDescribe (absCore lT 1 none)
    (absCore (runD lT ⟨[.writeEntity ⟨4, some 1, .context, 0, 5, some 1⟩ none (some [])], false, false⟩).1 1 none)
    (toReports (runD lT ⟨[.writeEntity ⟨4, some 1, .context, 0, 5, some 1⟩ none (some [])], false, false⟩).1
      ⟨(runD lT ⟨[.writeEntity ⟨4, some 1, .context, 0, 5, some 1⟩ none (some [])], false, false⟩).1.ver, 1, none⟩
      (runD lT ⟨[.writeEntity ⟨4, some 1, .context, 0, 5, some 1⟩ none (some [])], false, false⟩).2.1) = true := by decide +kernel

end Sdc.C01
