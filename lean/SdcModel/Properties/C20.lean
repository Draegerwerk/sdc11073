import SdcModel.Query
import SdcModel.Proofs.Query
/-!
# C20 — query services return exactly the selected states and texts
Property theorems only. Model and specification vocabulary (`WF`, `SelMdState`, `SelCtx`, `Under`, `Unknown`,
`Satisfies`, `IsLatest`): `SdcModel/Query.lean`; helper lemmas: `SdcModel/Proofs/Query.lean`.
All theorems hold for every MDIB content `m`, every handle list, every text store and every filter parameters.
-/
namespace Sdc.C20
open Sdc.Query

/-- GetMdState returns exactly the states selected by the BICEPS rules (empty list: all states; a descriptor
    handle: all its states; a context state handle: that state), each at most once -/
theorem mdstate_exact (m : Mdib) (wf : WF m) (ctxIncluded : Bool) (hs : List Handle) :
    (∀ s, s ∈ getMdState m ctxIncluded hs ↔ SelMdState m ctxIncluded hs s) ∧
    (getMdState m ctxIncluded hs).Nodup :=
  ⟨mem_getMdState wf ctxIncluded hs, nodup_getMdState wf ctxIncluded hs⟩

/-- GetContextStates returns exactly the selected context states (incl. the MDS rule), each at most once -/
theorem ctxstates_exact (m : Mdib) (wf : WF m) (hs : List Handle) :
    (∀ c, c ∈ getContextStates m hs ↔ SelCtx m hs c) ∧ (getContextStates m hs).Nodup :=
  getContextStates_spec wf hs

/-- the MDS rule on its own: the handle of an MDS yields exactly the context states whose descriptor lies in the
    containment tree of that MDS -/
theorem ctxstates_mds (m : Mdib) (wf : WF m) (h : Handle) (hmds : IsMds m h) (c : St) :
    c ∈ getContextStates m [h] ↔ c ∈ m.ctxs ∧ Under m h c.dh := by
  rw [(ctxstates_exact m wf [h]).1 c]
  obtain ⟨d, hd, hdh, hm⟩ := hmds
  simp only [SelCtx, List.cons_ne_nil, List.mem_singleton, exists_eq_left, false_or]
  constructor
  · rintro ⟨hc, hh | hh | ⟨_, hu⟩⟩
    · exact absurd (hh.trans hdh.symm) (wf.noCtxOfMds d hd hm c hc).1
    · exact absurd (hh.trans hdh.symm) (wf.noCtxOfMds d hd hm c hc).2
    · exact ⟨hc, hu⟩
  · rintro ⟨hc, hu⟩
    exact ⟨hc, Or.inr (Or.inr ⟨⟨d, hd, hdh, hm⟩, hu⟩)⟩

/-- the bounded walk of `get_all_descriptors_in_subtree` used for the MDS rule is complete and sound -/
theorem subtree_exact (m : Mdib) (r h : Handle) : h ∈ subtree m m.descrs.length r ↔ Under m r h :=
  mem_subtree_iff

/-- a handle that names nothing in the MDIB contributes nothing: dropping it from the list does not change the
    answer (the remaining list must stay non-empty, the empty list means "all"), and alone it selects nothing -/
theorem unknown_contributes_nothing (m : Mdib) (h : Handle) (hu : Unknown m h) (ctxIncluded : Bool)
    (pre post : List Handle) :
    (pre ++ post ≠ [] →
      getMdState m ctxIncluded (pre ++ h :: post) = getMdState m ctxIncluded (pre ++ post) ∧
      getContextStates m (pre ++ h :: post) = getContextStates m (pre ++ post)) ∧
    getMdState m ctxIncluded [h] = [] ∧ getContextStates m [h] = [] :=
  ⟨fun hne => ⟨getMdState_unknown hu ctxIncluded pre post hne, getContextStates_unknown hu pre post hne⟩,
    getMdState_unknown_single hu ctxIncluded, getContextStates_unknown_single hu⟩

/-- every returned text is a stored text and satisfies every constraint that is given -/
theorem texts_sound (s : List Text) (refs : List String) (ver : Option Nat) (langs : List String)
    (widths nols : List Nat) (t : Text) (h : t ∈ filterTexts s refs ver langs widths nols) :
    t ∈ s ∧ Satisfies refs ver langs widths nols t :=
  filterTexts_sound h

/-- without constraints exactly the texts of the latest version are returned (as a multiset) -/
theorem texts_complete_unconstrained (s : List Text) :
    (filterTexts s [] none [] [] []).Perm (s.filter (fun t => t.version = latest s)) ∧ IsLatest s (latest s) :=
  ⟨filterTexts_unconstrained s, latest_isLatest s⟩

/-- GetSupportedLanguages lists exactly the stored languages, each once -/
theorem languages_exact (s : List Text) :
    (∀ l, l ∈ supportedLanguages s ↔ ∃ t ∈ s, t.lang = some l) ∧ (supportedLanguages s).Nodup :=
  ⟨fun _ => mem_supportedLanguages, nodup_dedup _⟩

/-! ### non-vacuity: a two-MDS MDIB satisfying `WF`, with the selections computed by the model -/

def exMdib : Mdib :=
  { descrs := [⟨"mds0", none, true⟩, ⟨"sc0", some "mds0", false⟩, ⟨"pc0", some "sc0", false⟩,
               ⟨"mds1", none, true⟩, ⟨"sc1", some "mds1", false⟩, ⟨"lc1", some "sc1", false⟩]
    states := [⟨false, "", "mds0"⟩, ⟨false, "", "sc0"⟩, ⟨false, "", "mds1"⟩, ⟨false, "", "sc1"⟩]
    ctxs := [⟨true, "p1", "pc0"⟩, ⟨true, "p2", "pc0"⟩, ⟨true, "l1", "lc1"⟩] }

example : WF exMdib := by constructor <;> decide +kernel

example : getContextStates exMdib ["mds1"] = [⟨true, "l1", "lc1"⟩] := by decide +kernel
example : getContextStates exMdib ["mds0", "p1", "pc0", "nope"] = [⟨true, "p1", "pc0"⟩, ⟨true, "p2", "pc0"⟩] := by
  decide +kernel
example : getMdState exMdib true ["sc0", "p2", "sc0", "pc0"] =
    [⟨false, "", "sc0"⟩, ⟨true, "p2", "pc0"⟩, ⟨true, "p1", "pc0"⟩] := by decide +kernel
example : IsMds exMdib "mds1" ∧ Unknown exMdib "nope" := by
  refine ⟨⟨⟨"mds1", none, true⟩, by decide +kernel, rfl, rfl⟩, ?_, ?_, ?_⟩ <;> decide +kernel
example : Under exMdib "mds1" "lc1" :=
  Under.child (d := ⟨"lc1", some "sc1", false⟩) (by decide +kernel) rfl
    (Under.child (d := ⟨"sc1", some "mds1", false⟩) (by decide +kernel) rfl Under.root)

def exStore : List Text :=
  [⟨0, some "a", some "en", some 1, some 0, 1⟩, ⟨1, some "a", some "en", some 2, some 2, 2⟩,
   ⟨2, some "a", some "de", some 2, some 4, 3⟩, ⟨3, some "b", none, some 2, none, 1⟩]

example : (filterTexts exStore ["a"] (some 2) ["en", "de"] [3] [2, 3]).map (·.id) = [1, 1] := by decide +kernel
example : (filterTexts exStore [] none [] [] []).map (·.id) = [1, 2, 3] := by decide +kernel
example : supportedLanguages exStore = ["en", "de"] := by decide +kernel

end Sdc.C20
