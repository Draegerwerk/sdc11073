import SdcModel.Fp64
import SdcModel.Scalars
import SdcModel.Proofs.Fp64
import SdcModel.Proofs.ScalarsTs
import SdcModel.Proofs.ScalarsStr
import SdcModel.Proofs.ScalarsDecVal
import SdcModel.Proofs.ScalarsDur
import SdcModel.Proofs.ScalarsDurFp
import SdcModel.Proofs.ScalarsEnum
import SdcModel.ScalarsDt
import SdcModel.Proofs.ScalarsDt
import SdcModel.Generated.ScalarsEnums
/-!
# C18 — scalar XML value conversions are exact over the wire value space
Property theorems only. Models: `SdcModel/Fp64.lean` (binary64 on integers), `SdcModel/Scalars.lean` (converters);
helper lemmas in `SdcModel/Proofs/Fp64.lean`, `Proofs/Scalars*.lean`; enum tables regenerated on every run.
Strings are lists of code points; `Fp.abs x : ℚ` is the exact value of a float, `Dec.value d : ℚ` of a Decimal.
-/
namespace Sdc.C18
open Sdc.Fp64 Sdc.Scalars

/-- XML → Python → XML: every millisecond count `n < 2^53 / 1000` survives `round((n / 1000) * 1000)` on the
    bit-exact binary64 model (all `n`, no sampling) -/
theorem ts_xml_py_xml (n : Nat) (h : n * 1000 < 2 ^ 53) : tsXml (tsPy (n : Int)) = (n : Int) :=
  tsXml_tsPy n h

example : (9007199254740 : Nat) * 1000 < 2 ^ 53 := by decide
example : tsXml (tsPy 1001) = 1001 := by decide

/-- the same at the level of the wire strings: `to_xml(to_py(str(n))) == str(n)` -/
theorem ts_xml_py_xml_str (n : Nat) (h : n * 1000 < 2 ^ 53) :
    (tsToPy (natStr n)).map tsToXml = .ok (natStr n) := by
  unfold tsToPy
  rw [intToPy_natStr]
  exact congrArg Except.ok (tsToXml_tsPy n h)

/-- any accepted lexical form (sign, leading zeros, surrounding xml white space) of a millisecond count in range is
    written back as the canonical decimal numeral of the same count -/
theorem ts_xml_py_xml_lexical (s : Str) (n : Nat) (h : intToPy s = .ok (n : Int)) (hn : n * 1000 < 2 ^ 53) :
    (tsToPy s).map tsToXml = .ok (natStr n) := by
  unfold tsToPy
  rw [h]
  exact congrArg Except.ok (tsToXml_tsPy n hn)

example : intToPy [32, 43, 48, 48, 49, 48, 48, 49, 10] = .ok ((1001 : Nat) : Int) := by decide

/-- the repair matters: with truncation (`int(x * 1000)`, the code before fix 02af939) 1001 ms came back as 1000 ms -/
theorem ts_truncation_refuted : floorNat (rnMul (tsPy 1001) 1000) = 1000 := by decide

/-- Python → XML → Python: a float timestamp `0 ≤ x ≤ 2^41` s (year ≈ 71 000) comes back changed by less than 1 ms -/
theorem ts_py_xml_py (x : Fp) (hpos : x.neg = false) (hx : x.abs ≤ 2 ^ 41) :
    ∃ k : Nat, tsXml x = (k : Int) ∧ |(tsPy (k : Int)).abs - x.abs| < 1 / 1000 :=
  tsPy_tsXml_close x hpos hx

example : (⟨false, 2 ^ 52 + 12345, -22⟩ : Fp).abs ≤ 2 ^ 41 := by
  unfold Fp.abs; norm_num

/-- Python → XML → Python: every `Decimal` with at most 18 digits and exponent ≥ -18 (in particular [-18, 18];
    negative and zero coefficients included) keeps its numeric value and its sign, and the XML text consists of
    digits, `-` and `.` only (no exponent notation) -/
theorem dec_value_preserved (d : Dec) (hc : d.coeff < 10 ^ 18) (he : -18 ≤ d.exp) :
    ∃ d', decToPy (decToXml d) = .ok d' ∧ d'.value = d.value ∧ d'.neg = d.neg ∧ Plain (decToXml d) :=
  decToPy_decToXml d hc he

example : decToXml ⟨true, 123456789012345678, -18⟩ = [45, 48, 46, 49, 50, 51, 52, 53, 54, 55, 56, 57, 48, 49, 50, 51, 52, 53, 54, 55, 56] := by
  decide +kernel
example : decToXml ⟨false, 1, -7⟩ = [48, 46, 48, 48, 48, 48, 48, 48, 49] := by decide +kernel

/-- what `to_xml` writes for such a Decimal is inside the lexical space of xsd:decimal -/
theorem dec_xml_is_lexical (d : Dec) (hc : d.coeff < 10 ^ 18) (he : -18 ≤ d.exp) :
    DecimalLex (xmlStrip (decToXml d)) := by
  obtain ⟨d', h, _⟩ := decToPy_decToXml d hc he
  exact (decToPy_ok_iff _).mp ⟨d', h⟩

/-- XML → Python → XML → Python: an accepted xsd:decimal text with at most 18 digits is parsed to a Decimal in
    the range of `dec_value_preserved`, so writing it and reading it again gives the same value -/
theorem dec_xml_py_xml (s : Str) (d : Dec) (h : decToPy s = .ok d) (h18 : (s.filter isDigit).length ≤ 18) :
    ∃ d', decToPy (decToXml d) = .ok d' ∧ d'.value = d.value ∧ Plain (decToXml d) := by
  obtain ⟨hc, he, _⟩ := decToPy_bounds s d h
  obtain ⟨d', h1, h2, _, h4⟩ := decToPy_decToXml d (Nat.lt_of_lt_of_le hc (Nat.pow_le_pow_right (by decide) h18))
    (Int.le_trans (Int.neg_le_neg (Int.ofNat_le.mpr h18)) he)
  exact ⟨d', h1, h2, h4⟩

example : decToPy [32, 45, 48, 48, 55, 46, 53, 48, 10] = .ok ⟨true, 750, -2⟩ := by decide

/-- `parse_duration(duration_string(·))` at the integer microsecond boundary: the text written for `total`
    microseconds (any value up to `timedelta.max`) is parsed back to exactly `total` microseconds — including the
    float steps of the parser (`float('s.f')`, `modf`, `frac * 1e6`, round-half-even of `timedelta(seconds=…)`),
    which are exact here because `duration_string` writes seconds below 60 with at most six fraction digits
    (`floatStepExact`, proved on the binary64 model). -/
theorem duration_roundtrip (total : Nat) (hmax : total / usPerDay ≤ maxDays) :
    parseDurationUs (durationStringUs total) = .ok total :=
  parseDurationUs_durationStringUs floatStepExact total hmax

/-- the float handed back by `parse_duration` is `total / 10^6` correctly rounded (`timedelta.total_seconds()`) -/
theorem duration_roundtrip_float (total : Nat) (hmax : total / usPerDay ≤ maxDays) :
    parseDuration (durationStringUs total) = .ok (rnRat false total usPerSec) := by
  unfold parseDuration; rw [duration_roundtrip total hmax]; rfl

/-- what `duration_string` writes for a float is the rendering of the microsecond count `timedelta` computes for it -/
theorem duration_string_of_float (x : Fp) (us : Nat) (hx : x.m ≠ 0) (h : timedeltaUs 0 0 x = .ok us) :
    durationString x = .ok (durationStringUs us) := by
  unfold durationString; rw [if_neg hx, h]; rfl

example : (86399999999999999999 : Nat) / usPerDay ≤ maxDays := by decide
example : durationStringUs 3723000001 = [80, 84, 49, 72, 50, 77, 51, 46, 48, 48, 48, 48, 48, 49, 83] := by decide +kernel
example : parseDurationUs [80, 84, 49, 72, 50, 77, 51, 46, 48, 48, 48, 48, 48, 49, 83] = .ok 3723000001 := by decide +kernel

/-! ### date / time (xsd:gYear, gYearMonth, date, dateTime) -/

/-- `parse_date_time(str(info)) == info` for every well-formed `XsdDateInformation` (month 1..12, day 1..31 only with a
    month, time only with a day, hour ≤ 23, minute ≤ 59, seconds `SS[.f…]` below 60 as canonical decimal text, end-of-day
    only without time, utc offset within ±14:00): the text is recognised with the same priorities as the backtracking
    pattern (a negative offset directly behind the year / month is not taken for a month / day). The seconds stay
    decimal text in the model: `float(text)` and `format(Decimal(repr(x)), 'f')` are the trusted boundary. -/
theorem datetime_roundtrip (i : DateInfo) (hw : i.WF) : parseDateTime (dateTimeStr i) = .ok i :=
  parseDateTime_dateTimeStr i hw

example : (⟨-44, some 3, some 15, some (23, 59, 9, [53]), false, some (-300)⟩ : DateInfo).WF :=
  ⟨fun _ h => by cases h; decide, nofun, fun _ h => by cases h; decide, nofun,
    ⟨nofun, fun _ _ _ _ h => by cases h; decide⟩, fun _ h => by cases h; decide⟩
example : dateTimeStr ⟨2020, none, none, none, false, some (-300)⟩ = [50, 48, 50, 48, 45, 48, 53, 58, 48, 48] := by decide +kernel

/-- integers: anything outside `[+-]?[0-9]+` (after xml white space stripping) is rejected … -/
theorem lexical_reject_integer (s : Str) (h : ¬ IntegerLex (xmlStrip s)) : intToPy s = .error .value :=
  intToPy_reject s h

/-- … and exactly the lexical space is accepted, `str` / `int` being inverse -/
theorem lexical_accept_integer (s : Str) : (∃ i, intToPy s = .ok i) ↔ IntegerLex (xmlStrip s) := intToPy_ok_iff s

theorem integer_roundtrip (i : Int) : intToPy (intToXml i) = .ok i := intToPy_intToXml i

/-- timestamps use the integer recogniser -/
theorem lexical_reject_timestamp (s : Str) (h : ¬ IntegerLex (xmlStrip s)) : tsToPy s = .error .value :=
  tsToPy_reject s h

/-- decimals: anything outside `[+-]?([0-9]+(\.[0-9]*)?|\.[0-9]+)` (no exponent, no NaN/Infinity, ASCII digits) is rejected … -/
theorem lexical_reject_decimal (s : Str) (h : ¬ DecimalLex (xmlStrip s)) : decToPy s = .error .value :=
  decToPy_reject s h

theorem lexical_accept_decimal (s : Str) : (∃ d, decToPy s = .ok d) ↔ DecimalLex (xmlStrip s) := decToPy_ok_iff s

example : ¬ IntegerLex (xmlStrip [49, 95, 48, 48, 48]) :=   -- '1_000'
  fun h => nomatch (intToPy_ok_iff [49, 95, 48, 48, 48]).mpr h

/-- decimal lists (SampleArrayValue/@Samples): items are separated by U+0020 only; one item outside the lexical space of
    xsd:decimal rejects the whole attribute - tokens glued with a no-break space, a tab or any other character are not
    split into several items … -/
theorem lexical_reject_decimal_list (s t : Str) (ht : t ∈ listTokens s) (h : ¬ DecimalLex (xmlStrip t)) :
    decListToPy s = .error .value :=
  decItems_reject (listTokens s) t ht h

/-- … and an accepted list has one item per token, each the conversion of its token, in order -/
theorem decimal_list_items (s : Str) (ds : List Dec) (h : decListToPy s = .ok ds) :
    ds.length = (listTokens s).length ∧
      ∀ i (hi : i < (listTokens s).length) (hj : i < ds.length), decToPy (listTokens s)[i] = .ok ds[i] :=
  decItems_ok (listTokens s) ds h

example : decListToPy [49, 46, 53, 160, 50, 46, 53] = .error .value := by decide   -- '1.5<NBSP>2.5'
example : decListToPy [49, 46, 53, 32, 32, 50, 46, 53, 9] = .ok [⟨false, 15, -1⟩, ⟨false, 25, -1⟩] := by decide +kernel

/-- durations: anything outside `PT(\d+H)?(\d+M)?(\d+(\.\d+)?S)?` with at least one component (ASCII digits; one
    trailing newline tolerated, as `$` of the pattern does) is rejected … -/
theorem lexical_reject_duration (s : Str) (h : ¬ DurationLex (dropNewline s)) : parseDurationUs s = .error .value :=
  parseDurationUs_reject s h

/-- … and every string of that shape is recognised with exactly its groups -/
theorem lexical_accept_duration (oh om : Option Str) (os : Option (Str × Str))
    (hh : ∀ d, oh = some d → DigitsNE d) (hm : ∀ d, om = some d → DigitsNE d)
    (hs : ∀ d f, os = some (d, f) → DigitsNE d ∧ ∀ c ∈ f, isDigit c = true)
    (hsome : oh.isSome ∨ om.isSome ∨ os.isSome) :
    durationGroups (80 :: 84 :: (renderH oh ++ (renderM om ++ renderS os))) = some (oh, om, os) :=
  durationGroups_render oh om os hh hm hs hsome

example : parseDurationUs [80, 49, 68] = .error .value := by decide   -- 'P1D'

/-- date / time: anything outside the lexical space of xsd:dateTime / date / gYearMonth / gYear (`DateTimeLex`: optional
    `-`, year of 4 digits or more without leading zero, `-MM` 01..12, `-DD` 01..31, `Thh:mm:ss(.f+)` or `T24:00:00(.0+)`,
    `Z` or `±hh:mm` up to 14:00; ASCII digits; one trailing newline tolerated) is rejected with `ValueError` -/
theorem lexical_reject_datetime (s : Str) (h : ¬ DateTimeLex (dropNewline s)) : parseDateTime s = .error .value :=
  parseDateTime_reject s h

example : parseDateTime [50, 48, 50, 48, 45, 49, 51] = .error .value := by decide   -- '2020-13'

/-- enums: a string that is not a literal of the class is rejected; an accepted one is written back unchanged -/
theorem lexical_reject_enum (lits : List Str) (s : Str) (h : s ∉ lits) : enumToPy lits s = .error .value :=
  enumToPy_reject lits s h

theorem enum_roundtrip (lits : List Str) (s : Str) (i : Nat) (h : enumToPy lits s = .ok i) : enumToXml lits i = s :=
  enumToXml_enumToPy lits s i h

/-- … and for the enum classes of `pm_types` / `msg_types` (generated table) every member survives
    Python → XML → Python, because the literals of each class are pairwise distinct -/
theorem generated_enums_roundtrip :
    ∀ t ∈ Generated.enumTables, ∀ i, i < t.2.length → enumToPy t.2 (enumToXml t.2 i) = .ok i := by
  have hnd : ∀ t ∈ Generated.enumTables, t.2.Nodup := by decide +kernel
  intro t ht i hi
  exact enumToPy_enumToXml t.2 (hnd t ht) i hi

/-- booleans, exact on the lexical space `{true, false, 1, 0}` … -/
theorem boolean_exact_partial (t : Str) (h : BooleanLex t) : boolToPy t = .ok (decide (t = litTrue ∨ t = [49])) :=
  boolToPy_lex t h

theorem boolean_roundtrip (b : Bool) : boolToPy (boolToXml b) = .ok b ∧ BooleanLex (boolToXml b) :=
  ⟨boolToPy_boolToXml b, boolToXml_lex b⟩

/-- the full statement for booleans … -/
def lexical_reject_boolean_full : Prop := ∀ s : Str, ¬ BooleanLex s → boolToPy s = .error .value

/-- … is false for the code as it is: `BooleanConverter.to_py('TRUE')` is `False`, not an error (known finding
    `lexical:boolean-coerced`; the test-suite asserts this leniency) -/
theorem lexical_reject_boolean_refuted : ¬ lexical_reject_boolean_full :=
  fun h => nomatch h [84, 82, 85, 69] (by unfold BooleanLex; decide)

end Sdc.C18
