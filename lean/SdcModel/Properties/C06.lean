import SdcModel.Consumer
import SdcModel.Proofs.Consumer
import SdcModel.Generated.ConsumerLocks
/-!
# C06 — the consumer MDIB never regresses under lost, duplicated or reordered reports

Property theorems only.  Model: `SdcModel/Consumer.lean` (transcription of `mdib/consumermdib.py`, repaired tree);
helper lemmas: `SdcModel/Proofs/Consumer.lean`.  Every theorem quantifies over *arbitrary* reports / event lists:
nothing is assumed about where the reports come from, so every subset, duplication, reordering or replay of a
provider's notifications is covered.
-/
namespace Sdc.C06
open Sdc.Mdib Sdc.Consumer

/-! ### concrete data for the non-vacuity examples -/

def vg (v : Nat) : VersionGroup := ⟨v, 1, some 1⟩
def snap0 : Snapshot :=
  ⟨vg 3, [⟨1, none, .component, 0, 10, none⟩, ⟨2, some 1, .metric, 0, 11, none⟩, ⟨3, some 1, .context, 0, 12, none⟩],
   [⟨1, 0, 0, .component, 20⟩, ⟨2, 0, 4, .metric, 21⟩], [⟨7, 3, 0, 1, 30, .assoc, some 2, none, none, none⟩]⟩
def metric5 : Report := { kind := .metric, vg := vg 5, states := [⟨2, 0, 6, .metric, 22⟩] }
def metric4 : Report := { kind := .metric, vg := vg 4, states := [⟨2, 0, 5, .metric, 23⟩] }
def descr6 : Report :=
  { kind := .description, vg := vg 6,
    parts := [⟨.create, ⟨4, some 1, .metric, 0, 13, none⟩, [⟨4, 0, 0, .metric, 24⟩], []⟩,
              ⟨.update, ⟨2, some 1, .metric, 1, 14, none⟩, [⟨2, 1, 7, .metric, 25⟩], []⟩] }
def otherSeq : Report := { kind := .metric, vg := ⟨1, 2, some 1⟩, states := [⟨2, 0, 0, .metric, 26⟩] }
/-- a loaded consumer: `reload_all` answered with `snap0`, nothing arrived meanwhile -/
def loaded : St := run St.init [.reloadBegin, .reloadEnd snap0 []]

/-- whatever reports arrive, in whatever order and multiplicity, the MdibVersion never decreases -/
theorem mdib_version_monotone (s : St) (rs : List Report) :
    s.core.vg.ver ≤ (run s (rs.map .report)).core.vg.ver :=
  run_reports_ver_le rs s

example : (run loaded ([metric5, metric4, metric5].map .report)).core.vg.ver = 5 := by decide +kernel

/-- after a reload the MdibVersion is at least the version of the GetMdib answer -/
theorem mdib_version_after_reload (s : St) (snap : Snapshot) (ctx2 : List CState) (hm : s.mode = .initializing)
    (hw : snap.wf ctx2 = true) : snap.vg.ver ≤ (step s (.reloadEnd snap ctx2)).1.core.vg.ver := by
  rw [step_reloadEnd snap ctx2 hm hw, replay_eq_applyAll]
  exact applyAll_ver_le _ (loadSnapshot snap ctx2)

/-- along every list of reports that announce no deletion, every state and context state the consumer holds stays
    in the MDIB and its StateVersion never decreases (any order, any multiplicity, any gaps) -/
theorem state_versions_monotone (s : St) (rs : List Report) (h : ∀ r ∈ rs, nonRemoving r = true) :
    Keeps (·.dh) (·.sv) s.core.tabs.states (run s (rs.map .report)).core.tabs.states ∧
    Keeps (·.h) (·.sv) s.core.tabs.cstates (run s (rs.map .report)).core.tabs.cstates :=
  run_reports_keeps h

example : ∀ r ∈ [metric5, descr6, metric4, metric5], nonRemoving r = true := by decide +kernel
example : (lookupBy (·.dh) (run loaded ([metric5, descr6, metric4, metric5].map .report)).core.tabs.states 2).map (·.sv)
    = some 7 := by decide +kernel

/-- every single write to a table obeys the StateVersion gate, also inside description modification reports: an
    existing entry is replaced only by a strictly newer one -/
theorem state_write_gated {α : Type} (key sv : α → Nat) (am : Bool) (l : List α) (x old : α)
    (h : lookupBy key l (key x) = some old) :
    (sv old < sv x ∧ lookupBy key (gatedPut key sv am l x).1 (key x) = some x) ∨
    (sv x ≤ sv old ∧ gatedPut key sv am l x = (l, false)) := by
  rcases gatedPut_cases key sv am l x with ⟨old', ho, hlt, e⟩ | ⟨hn, _, _⟩ | ⟨⟨a, ha, hle⟩ | ⟨hn, _⟩, e⟩
  · rw [h] at ho; cases ho
    exact Or.inl ⟨hlt, by rw [e, lookupBy_replaceBy, if_pos rfl, h]; rfl⟩
  · rw [h] at hn; cases hn
  · rw [h] at ha; cases ha
    exact Or.inr ⟨hle, e⟩
  · rw [h] at hn; cases hn

/-- **every report, deleting ones included**: if the reports that reach the consumer are drawn (any subset, order,
    multiplicity) from a coherent pool of published reports, no StateVersion ever decreases -/
theorem state_versions_monotone_published {pool : List Source} (hc : Coherent pool) (s : St) (r : Report)
    (hr : Source.ofReport r ∈ pool) (w : s.core.tabs.Wf) (hj : Justified pool s.core) :
    Mono (·.dh) (·.sv) s.core.tabs.states (step s (.report r)).1.core.tabs.states ∧
    Mono (·.h) (·.sv) s.core.tabs.cstates (step s (.report r)).1.core.tabs.cstates ∧
    Justified pool (step s (.report r)).1.core := by
  have refl : Mono (·.dh) (·.sv) s.core.tabs.states s.core.tabs.states ∧
      Mono (·.h) (·.sv) s.core.tabs.cstates s.core.tabs.cstates ∧ Justified pool s.core :=
    ⟨Mono.refl _ _ _, Mono.refl _ _ _, hj⟩
  rcases step_report_cases s r with ⟨_, h⟩ | ⟨_, h⟩ | ⟨_, _, h⟩ | ⟨_, hid, h⟩ <;> rw [h]
  · exact refl
  · exact refl
  · exact refl
  · exact applyReport_coherent hc hr ((idsDiffer_eq_false_iff ..).1 hid).1 w hj

/-- the invariant `Justified` holds after every load: the states come from the GetMdib answer, the replayed reports
    keep it -/
theorem justified_after_reload {pool : List Source} (s : St) (snap : Snapshot) (hs : Source.ofSnapshot snap ∈ pool)
    (hb : ∀ r ∈ s.buf, Source.ofReport r ∈ pool) (hcoh : Coherent pool) (hm : s.mode = .initializing)
    (hw : snap.wf [] = true) (hc : snap.cstates ≠ []) :
    Justified pool (step s (.reloadEnd snap [])).1.core :=
  justified_reloadEnd s snap hs hb hcoh hm hw

/-- the hypotheses are satisfiable: a pool made of a Get answer and reports with growing versions is coherent, the
    loaded consumer is justified by it -/
def pool0 : List Source := [Source.ofSnapshot snap0, Source.ofReport metric4, Source.ofReport metric5, Source.ofReport descr6]
example : Coherent pool0 := by decide +kernel
example : Justified pool0 loaded.core := by decide +kernel

/-- a report older than the MdibVersion of the consumer changes nothing (and names nothing) -/
theorem stale_noop (s : St) (r : Report) (hm : s.mode = .initialized) (hid : idsDiffer s.core r = false)
    (h : r.vg.ver < s.core.vg.ver) : step s (.report r) = (s, [{ kind := r.kind }]) := by
  rw [step_report_ok r hm hid, applyReport_stale h]

example : step (run loaded [.report metric5]) (.report metric4) = (run loaded [.report metric5], [{ kind := .metric }]) := by
  decide +kernel

/-- a state / context report whose states the consumer already holds in the same or a newer version leaves the
    tables as they are -/
theorem covered_noop (c : Core) (r : Report) (hk : r.kind ≠ .description) (h : StatesCovered c r) :
    (applyReport c r).1.tabs = c.tabs ∧ (applyReport c r).2 = { kind := r.kind } :=
  applyReport_of_covered hk h

/-- an exact duplicate of a state / context report that was applied changes nothing, no matter how many other
    (non-deleting) reports were processed in between -/
theorem dup_noop (s : St) (r : Report) (rs : List Report) (hk : r.kind ≠ .description)
    (hm : s.mode = .initialized) (hid : idsDiffer s.core r = false) (hv : s.core.vg.ver ≤ r.vg.ver)
    (hrs : ∀ q ∈ rs, nonRemoving q = true) :
    (step (run (step s (.report r)).1 (rs.map .report)) (.report r)).1.core.tabs =
      (run (step s (.report r)).1 (rs.map .report)).core.tabs := by
  have h1 : StatesCovered (step s (.report r)).1.core r := by
    rw [step_report_ok r hm hid]; exact applyReport_covers hk hv
  have h2 : StatesCovered (run (step s (.report r)).1 (rs.map .report)).core r := h1.keeps (run_reports_keeps hrs)
  generalize run (step s (.report r)).1 (rs.map .report) = s2 at h2 ⊢
  rcases step_report_cases s2 r with ⟨_, h⟩ | ⟨_, h⟩ | ⟨_, _, h⟩ | ⟨_, _, h⟩ <;> rw [h]
  exact (applyReport_of_covered hk h2).1

example : (step (run loaded ([metric5, descr6].map .report)) (.report metric5)).1.core.tabs
    = (run loaded ([metric5, descr6].map .report)).core.tabs := by decide +kernel

/-- a description modification report whose parts are already reflected by the tables (`Settled`: created /
    updated descriptors present with that content, their states present in the same or a newer version, deleted
    descriptors absent) changes nothing -/
theorem dup_description_noop (c : Core) (r : Report) (hk : r.kind = .description) (w : c.tabs.Wf)
    (hv : r.vg = c.vg) (h : Settled c.tabs r) : (applyReport c r).1 = c := by
  rw [applyReport_description (hv ▸ Nat.le_refl _) hk, applyParts_of_settled w h, hv]

/-- `Settled` holds after the report was applied (concrete instance; the real consumer is checked on every
    duplicated delivery by the harness) -/
example : (applyReport (run loaded ([descr6].map .report)).core descr6).1 = (run loaded ([descr6].map .report)).core := by
  decide +kernel

/-- unique keys (descriptor handle, state descriptor handle, context state handle) are preserved by every event -/
theorem tables_consistent (s : St) (evs : List Event) (w : s.core.tabs.Wf) : (run s evs).core.tabs.Wf :=
  run_wf evs w

theorem tables_consistent_from_start (evs : List Event) : (run St.init evs).core.tabs.Wf :=
  run_wf evs ⟨List.nodup_nil, List.nodup_nil, List.nodup_nil⟩

/-- every single state the consumer holds after any history of events is, field by field, one of the states that
    a delivered report or a loaded GetMdib answer contained -/
theorem published_only (evs : List Event) (x : SState) (h : x ∈ (run St.init evs).core.tabs.states) :
    ∃ e ∈ evs, x ∈ eventStates e := by
  have := run_heldFrom (P := fun x => ∃ e ∈ evs, x ∈ eventStates e) (Q := fun _ => True) evs (s := St.init)
    ⟨⟨fun x hx => (nomatch hx), fun _ _ => trivial⟩, fun r hr => nomatch hr⟩
    (fun e he => ⟨fun x hx => ⟨e, he, hx⟩, fun _ _ => trivial⟩)
  exact this.1.1 x h

/-- the same for context states (GetContextStates answer included) -/
theorem published_only_context (evs : List Event) (x : CState) (h : x ∈ (run St.init evs).core.tabs.cstates) :
    ∃ e ∈ evs, x ∈ eventCStates e := by
  have := run_heldFrom (P := fun _ => True) (Q := fun x => ∃ e ∈ evs, x ∈ eventCStates e) evs (s := St.init)
    ⟨⟨fun _ _ => trivial, fun x hx => nomatch hx⟩, fun r hr => nomatch hr⟩
    (fun e he => ⟨fun _ _ => trivial, fun x hx => ⟨e, he, hx⟩⟩)
  exact this.1.2 x h

example : (⟨2, 1, 7, .metric, 25⟩ : SState) ∈ (run loaded ([metric5, descr6].map .report)).core.tabs.states := by decide +kernel

/-- a report with another SequenceId or InstanceId invalidates the consumer, raises the event and changes nothing;
    from then on every report is ignored until the application reloads -/
theorem seq_change_stops (s : St) (r : Report) (rs : List Report) (hm : s.mode = .initialized)
    (hd : idsDiffer s.core r = true) :
    step s (.report r) = ({ s with mode := .invalid }, [{ kind := r.kind, idChanged := true }]) ∧
    run (step s (.report r)).1 (rs.map .report) = { s with mode := .invalid } := by
  refine ⟨step_report_changed r hm hd, ?_⟩
  rw [step_report_changed r hm hd]
  exact run_reports_invalid rfl

example : (run loaded ([otherSeq, metric5, descr6].map .report)) = { loaded with mode := .invalid } := by decide +kernel

/-- in state `invalid` (also: before the first load) nothing is ever applied -/
theorem invalid_ignores (s : St) (rs : List Report) (hm : s.mode = .invalid) : run s (rs.map .report) = s :=
  run_reports_invalid hm

/-- while GetMdib is in flight every arriving report is appended to the buffer, exactly once, and nothing else changes -/
theorem buffering_exact (s : St) (rs : List Report) (hm : s.mode = .initializing) :
    run s (rs.map .report) = { s with buf := s.buf ++ rs } :=
  run_reports_initializing hm

/-! ### the atomicity assumptions of the model, from the traced programs (regenerated on every run) -/

/-- `reloadEnd` is atomic in the model because, in the traced `reload_all`, the switch to `initialized` happens inside
    the buffer-lock section: a notification thread can never see `initializing` together with an already replayed buffer -/
theorem reload_switches_inside_buffer_lock :
    switchInsideLock false Generated.reloadAllTrace = true ∧
    Generated.reloadAllTrace.contains (.writeState .initialized) = true := by decide

/-- `finishBuffered` is the right second half: the traced `_pre_check_report_ok` reads the state again inside its
    buffer-lock section before it appends -/
theorem precheck_rechecks_inside_buffer_lock :
    recheckBeforeAppend false false Generated.preCheckTrace = true ∧
    Generated.preCheckTrace.contains .append = true := by decide

/-- the model gives every consumer MDIB its own state `St` (tables, version group, mode, buffer).  That is justified for
    the implementation because no mutable container is an attribute of the `ConsumerMdib` class or of a base class
    (regenerated by introspection on every run): two consumer MDIBs in one process cannot share a buffer -/
theorem consumer_state_is_per_instance : Generated.consumerClassLevelMutableAttrs = [] := by decide

/-- the pre-check of a notification is not atomic (state read, then buffer lock, then state read again).  For a
    notification thread that saw `initializing`: if it gets the buffer lock before `reload_all` replays, the report is
    buffered exactly as in the atomic step … -/
theorem buffer_race_early (s : St) (r : Report) (hm : s.mode = .initializing) :
    finishBuffered s r = step s (.report r) := by
  unfold finishBuffered; rw [step_report_initializing r hm]; simp [hm]

/-- … and if `reload_all` finishes first (`reloadEnd` is atomic with respect to the buffer lock,
    `reload_switches_inside_buffer_lock`), the re-check under the lock sends the report through its handler: it is not
    appended to the (already replayed) buffer, the buffer stays empty, nothing is lost and nothing is applied twice -/
theorem buffer_race_late (s : St) (r : Report) (snap : Snapshot) (ctx2 : List CState) (hm : s.mode = .initializing)
    (hw : snap.wf ctx2 = true) :
    (finishBuffered (step s (.reloadEnd snap ctx2)).1 r).1 =
      { (step s (.reloadEnd snap ctx2)).1 with core := (applyReport (step s (.reloadEnd snap ctx2)).1.core r).1 } ∧
    (finishBuffered (step s (.reloadEnd snap ctx2)).1 r).1.buf = [] := by
  rw [step_reloadEnd snap ctx2 hm hw]
  exact ⟨rfl, rfl⟩

/-- with the ids of the loaded MDIB the late report is processed exactly like a report that arrives after the load -/
theorem buffer_race_late_eq_report (s : St) (r : Report) (hm : s.mode = .initialized) (hid : idsDiffer s.core r = false) :
    finishBuffered s r = step s (.report r) := by
  unfold finishBuffered; rw [step_report_ok r hm hid]; simp [hm]

example : (finishBuffered (run St.init [.reloadBegin, .reloadEnd snap0 []]) metric5).1.core.vg.ver = 5 ∧
    (finishBuffered (run St.init [.reloadBegin, .reloadEnd snap0 []]) metric5).1.buf = [] := by decide +kernel

/-- when the answers arrive, the consumer holds the answer plus exactly the buffered reports that have its
    SequenceId and are newer than it, each applied once, in arrival order; the buffer is empty, the state `initialized` -/
theorem reload_restores (s : St) (snap : Snapshot) (ctx2 : List CState) (hm : s.mode = .initializing)
    (hw : snap.wf ctx2 = true) :
    (step s (.reloadEnd snap ctx2)).1 =
      ⟨.initialized, (applyAll (loadSnapshot snap ctx2) (s.buf.filter (replayable snap.vg.ver snap.vg.seq))).1, []⟩ := by
  rw [step_reloadEnd snap ctx2 hm hw, replay_eq_applyAll]
  rfl

/-- complete reload: begin, `rs` arrive while GetMdib is in flight, answers arrive -/
theorem reload_sequence (s : St) (rs : List Report) (snap : Snapshot) (ctx2 : List CState) (hb : s.buf = [])
    (hw : snap.wf ctx2 = true) :
    run s (.reloadBegin :: rs.map .report ++ [.reloadEnd snap ctx2]) =
      ⟨.initialized, (applyAll (loadSnapshot snap ctx2) (rs.filter (replayable snap.vg.ver snap.vg.seq))).1, []⟩ := by
  rw [List.cons_append, run_cons, run_append]
  have h1 : (step s .reloadBegin).1 = ⟨.initializing, ⟨⟨0, 0, none⟩, {}⟩, s.buf⟩ := rfl
  rw [h1, run_reports_initializing rfl, run_cons, run_nil, reload_restores _ _ _ rfl hw, hb]
  rfl

example : (run loaded (.reloadBegin :: [metric4, otherSeq, metric5, metric5].map .report ++ [.reloadEnd snap0 []])).core.vg.ver = 5 ∧
    (run loaded (.reloadBegin :: [metric4, otherSeq, metric5, metric5].map .report ++ [.reloadEnd snap0 []])).buf = [] := by
  decide +kernel

end Sdc.C06
