import SdcModel.Discovery
import SdcModel.Proofs.Discovery
import SdcModel.Generated.DiscoveryConsts
/-!
# C14 — WS-Discovery answers and records exactly what its matching rules prescribe
Property theorems only. Model: `SdcModel/Discovery.lean` (on `Basic/Url.lean`, `UdpRepeat.lean`), compared on every run with
`wsdimpl.match_scope / matches_filter` and with a real `WSDiscovery` fed with SOAP datagrams through `_run_q_read`.
`chk` = the library checks inside `urlsplit` (every theorem holds for every `chk`), `r` = the `MatchBy` URIs
(`Generated.Discovery.rules` is what the running code uses).
-/
namespace Sdc.C14
open Sdc.Discovery Sdc.Url Sdc.Percent

/-- **RFC 3986 rule.** For URIs `urlsplit` accepts, the probe scope matches the service scope iff scheme and authority are
    equal up to ASCII case and the percent-decoded path segments of the probe scope are a (segment-wise) prefix of those
    of the service scope. Query and fragment play no role. -/
theorem match_rfc3986_iff (chk : Bytes → Bool) (r : Rules) (mine other : Bytes) (m : Option Bytes)
    (hk : ruleKind r m = .uriLike) (a b : Split) (ha : urlsplit chk mine = some a) (hb : urlsplit chk other = some b) :
    matchScope chk r mine other m = .ok true ↔
      lower a.scheme = lower b.scheme ∧ lower a.netloc = lower b.netloc ∧
        decodedSegments a.path <+: decodedSegments b.path := by
  unfold matchScope
  simp only [hk, ha, hb, Except.ok.injEq]
  exact uriMatch_iff a b

/-- … and the comparison always yields a Boolean for such URIs; it raises `ValueError` exactly when `urlsplit` rejects one -/
theorem match_rfc3986_defined (chk : Bytes → Bool) (r : Rules) (mine other : Bytes) (m : Option Bytes)
    (hk : ruleKind r m = .uriLike) :
    (∃ v, matchScope chk r mine other m = .ok v) ↔ (urlsplit chk mine ≠ none ∧ urlsplit chk other ≠ none) := by
  unfold matchScope
  simp only [hk]
  cases urlsplit chk mine <;> cases urlsplit chk other <;> simp

/-- **String rule.** `strcmp0` matching is exact equality of the two strings. -/
theorem match_strcmp_iff (chk : Bytes → Bool) (r : Rules) (mine other : Bytes) (m : Option Bytes)
    (hk : ruleKind r m = .strcmp) : matchScope chk r mine other m = .ok true ↔ mine = other := by
  unfold matchScope
  simp [hk]

theorem match_strcmp_defined (chk : Bytes → Bool) (r : Rules) (mine other : Bytes) (m : Option Bytes)
    (hk : ruleKind r m = .strcmp) : matchScope chk r mine other m = .ok (mine == other) := by
  unfold matchScope
  simp [hk]

/-- **Unknown rule** ⇒ no match. -/
theorem match_unknown_rule (chk : Bytes → Bool) (r : Rules) (mine other : Bytes) (m : Option Bytes)
    (hk : ruleKind r m = .unknown) : matchScope chk r mine other m = .ok false := by
  unfold matchScope
  simp [hk]

/-- which rule a `MatchBy` value selects, for the URIs of the running code: absent / empty / rfc3986 / ldap / uuid use the
    URI comparison, strcmp0 the string comparison, everything else (e.g. another case) is unknown -/
theorem generated_rule_kinds :
    ruleKind Generated.Discovery.rules none = .uriLike ∧
    ruleKind Generated.Discovery.rules (some []) = .uriLike ∧
    ruleKind Generated.Discovery.rules (some Generated.Discovery.rules.uri) = .uriLike ∧
    ruleKind Generated.Discovery.rules (some Generated.Discovery.rules.ldap) = .uriLike ∧
    ruleKind Generated.Discovery.rules (some Generated.Discovery.rules.uuid) = .uriLike ∧
    ruleKind Generated.Discovery.rules (some Generated.Discovery.rules.strcmp) = .strcmp ∧
    ruleKind Generated.Discovery.rules (some (Generated.Discovery.rules.strcmp ++ [32])) = .unknown ∧
    ruleKind Generated.Discovery.rules (some (Generated.Discovery.rules.uri.map fun b => if 97 ≤ b ∧ b ≤ 122 then b - 32 else b)) = .unknown :=
  ⟨rfl, ruleKind_uriLike (.inr (.inr (.inr rfl))), ruleKind_uriLike (.inr (.inl rfl)), ruleKind_uriLike (.inl rfl),
    ruleKind_uriLike (.inr (.inr (.inl rfl))), by decide +kernel⟩

/-- the namespace `http://docs.oasis-open.org/ws-dd/ns/discovery/2009/01` of WS-Discovery 1.1 -/
def wsdNamespace : Bytes :=
  [104, 116, 116, 112, 58, 47, 47, 100, 111, 99, 115, 46, 111, 97, 115, 105, 115, 45, 111, 112, 101, 110, 46, 111, 114, 103, 47, 119, 115, 45, 100, 100, 47, 110, 115, 47, 100, 105, 115, 99, 111, 118, 101, 114, 121, 47, 50, 48, 48, 57, 47, 48, 49]

/-- the rule URIs of the running code are the ones of WS-Discovery 1.1 (section 5.1):
    `…/ldap`, `…/rfc3986`, `…/uuid`, `…/strcmp0` -/
theorem generated_rules_standard :
    Generated.Discovery.rules.ldap = wsdNamespace ++ [47, 108, 100, 97, 112] ∧
    Generated.Discovery.rules.uri = wsdNamespace ++ [47, 114, 102, 99, 51, 57, 56, 54] ∧
    Generated.Discovery.rules.uuid = wsdNamespace ++ [47, 117, 117, 105, 100] ∧
    Generated.Discovery.rules.strcmp = wsdNamespace ++ [47, 115, 116, 114, 99, 109, 112, 48] := by
  decide +kernel

/-- the generated constants are the four distinct WS-Discovery rule URIs under one namespace -/
theorem generated_rules_distinct :
    Generated.Discovery.rules.uri ≠ Generated.Discovery.rules.strcmp ∧
    Generated.Discovery.rules.ldap ≠ Generated.Discovery.rules.strcmp ∧
    Generated.Discovery.rules.uuid ≠ Generated.Discovery.rules.strcmp ∧ Generated.Discovery.rules.strcmp ≠ [] ∧
    0 < Generated.Discovery.knownIdsMaxlen := by
  decide +kernel

/-- algebra of the URI rule: reflexive … -/
theorem match_refl (chk : Bytes → Bool) (r : Rules) (u : Bytes) (m : Option Bytes) (hk : ruleKind r m = .uriLike)
    (hu : urlsplit chk u ≠ none) : matchScope chk r u u m = .ok true := by
  obtain ⟨a, ha⟩ := Option.ne_none_iff_exists'.mp hu
  exact (match_rfc3986_iff chk r u u m hk a a ha ha).mpr ⟨rfl, rfl, List.prefix_refl _⟩

/-- … and transitive (a probe scope matching `v` matches everything `v` matches) -/
theorem match_trans (chk : Bytes → Bool) (r : Rules) (u v w : Bytes) (m : Option Bytes) (hk : ruleKind r m = .uriLike)
    (h1 : matchScope chk r u v m = .ok true) (h2 : matchScope chk r v w m = .ok true) :
    matchScope chk r u w m = .ok true := by
  have d1 := (match_rfc3986_defined chk r u v m hk).mp ⟨_, h1⟩
  have d2 := (match_rfc3986_defined chk r v w m hk).mp ⟨_, h2⟩
  obtain ⟨a, ha⟩ := Option.ne_none_iff_exists'.mp d1.1
  obtain ⟨b, hb⟩ := Option.ne_none_iff_exists'.mp d1.2
  obtain ⟨c, hc⟩ := Option.ne_none_iff_exists'.mp d2.2
  have p1 := (match_rfc3986_iff chk r u v m hk a b ha hb).mp h1
  have p2 := (match_rfc3986_iff chk r v w m hk b c hb hc).mp h2
  exact (match_rfc3986_iff chk r u w m hk a c ha hc).mpr
    ⟨p1.1.trans p2.1, p1.2.1.trans p2.2.1, p1.2.2.trans p2.2.2⟩

/-- an encoded slash is not a segment separator: `/a%2Fb` does not match `/a/b` although `/a` does -/
theorem encoded_slash_is_not_a_separator :
    matchScope (fun _ => true) Generated.Discovery.rules [120, 58, 47, 97, 37, 50, 70, 98] [120, 58, 47, 97, 47, 98] none = .ok false ∧
    matchScope (fun _ => true) Generated.Discovery.rules [120, 58, 47, 97] [120, 58, 47, 97, 47, 98] none = .ok true ∧
    matchScope (fun _ => true) Generated.Discovery.rules [120, 58, 47, 97, 47] [120, 58, 47, 97, 47, 98] none = .ok false := by
  decide +kernel

/-- **Probe answer exact.** Whenever the Probe handler does not raise, it leaves the state alone and queues one ProbeMatch
    for exactly those published services that offer all requested types and have, for every requested scope, a scope
    matching it under the requested rule (`wanted`), in publication order. -/
theorem probe_answer_exact (chk : Bytes → Bool) (r : Rules) (st st' : State) (types : Option (List QName))
    (scopes : Option Scopes) (outs : List Out) (h : handle chk r st (.probe types scopes) = .ok (st', outs)) :
    st' = st ∧ outs = (st.local_.values.filter (wanted chk r types scopes)).map .probeMatch := by
  unfold handle at h
  dsimp only at h
  split at h
  · cases h
  · rename_i l hl
    cases h
    exact ⟨rfl, by rw [filterServices_ok hl]⟩

/-- … and it does not raise when every published service has a types list and all scope pairs can be compared
    (`Comparable`: for the URI rule both are URIs accepted by `urlsplit`) -/
theorem probe_answer_defined (chk : Bytes → Bool) (r : Rules) (st : State) (types : Option (List QName))
    (scopes : Option Scopes) (h : ∀ s ∈ st.local_.values, Comparable chk r scopes s) :
    handle chk r st (.probe types scopes) =
      .ok (st, (st.local_.values.filter (wanted chk r types scopes)).map .probeMatch) := by
  unfold handle
  dsimp only
  rw [filterServices_total types h]

/-- membership form of the statement: a service is answered iff it is published and wanted -/
theorem probe_answer_mem (chk : Bytes → Bool) (r : Rules) (st st' : State) (types : Option (List QName))
    (scopes : Option Scopes) (outs : List Out) (h : handle chk r st (.probe types scopes) = .ok (st', outs)) (s : Service) :
    Out.probeMatch s ∈ outs ↔ s ∈ st.local_.values ∧ wanted chk r types scopes s = true := by
  rw [(probe_answer_exact chk r st st' types scopes outs h).2]
  simp only [List.mem_map, List.mem_filter, Out.probeMatch.injEq, exists_eq_right]

/-- **Resolve.** A Resolve is answered only for a published endpoint reference, and then with that service. -/
theorem resolve_only_published (chk : Bytes → Bool) (r : Rules) (st : State) (epr : Bytes) :
    handle chk r st (.resolve epr) =
      .ok (st, match st.local_.get epr with
        | some s => [.resolveMatch s]
        | none => []) := by
  unfold handle
  dsimp only
  cases st.local_.get epr <;> rfl

/-- published means: `publish_service` was called for the epr and `clear_service` not since -/
theorem published_get (st : State) (epr : Bytes) (types : Option (List QName)) (scopes : Option Scopes)
    (xaddrs : List Bytes) (inst : Nat) (e : Bytes) :
    (publish st epr types scopes xaddrs inst).local_.get e =
      if e = epr then some ⟨epr, types, scopes, xaddrs, nextMv (st.local_.get epr), inst⟩
      else st.local_.get e := by
  unfold publish
  by_cases h : e = epr
  · subst h; simp [Table.get_set_same]
  · simp [h, Table.get_set_other _ _ _ _ h]

theorem cleared_get (st st' : State) (epr : Bytes) (h : clearService st epr = some st') (e : Bytes) :
    st'.local_.get e = if e = epr then none else st.local_.get e := by
  unfold clearService at h
  split at h
  · cases h
  · cases h
    by_cases he : e = epr
    · subst he; simp [Table.get_del_same]
    · simp [he, Table.get_del_other _ _ _ he]

/-- **Remote table exact.** After every sequence of messages (Hello / ProbeMatches / ResolveMatches / Bye / anything else,
    with or without AppSequence, in any order, with duplicates) starting from an empty table, the entry of a non-empty
    endpoint reference `e` is `entry` of the announcements for `e` since its last Bye: absent iff there was none, else the
    first announcement with the highest metadata version updated by the later ones carrying that version. -/
theorem remote_table_exact (chk : Bytes → Bool) (r : Rules) (st : State) (hst : st.remote = []) (ms : List Msg)
    (e : Bytes) (he : e ≠ []) :
    (run chk r st ms).remote.get e = entry (anns e (ms.flatMap (opsOf r))) := by
  rw [run_remote, hst]
  exact table_fold e he _ [] [] rfl

/-- … in particular it carries the highest metadata version seen since the last Bye, -/
theorem remote_table_max_version (chk : Bytes → Bool) (r : Rules) (st : State) (hst : st.remote = []) (ms : List Msg)
    (e : Bytes) (he : e ≠ []) (s : Service) (h : (run chk r st ms).remote.get e = some s) :
    s.mv = maxMv (anns e (ms.flatMap (opsOf r))) ∧ ∀ a ∈ anns e (ms.flatMap (opsOf r)), a.mv ≤ s.mv := by
  rw [remote_table_exact chk r st hst ms e he] at h
  have := entry_mv h
  exact ⟨this, fun a ha => this ▸ le_maxMv ha⟩

/-- … there is an entry iff something was announced since the last Bye, -/
theorem remote_table_present_iff (chk : Bytes → Bool) (r : Rules) (st : State) (hst : st.remote = []) (ms : List Msg)
    (e : Bytes) (he : e ≠ []) :
    (run chk r st ms).remote.get e = none ↔ anns e (ms.flatMap (opsOf r)) = [] := by
  rw [remote_table_exact chk r st hst ms e he]
  exact entry_eq_none

/-- … and its content comes from the announcements with that version: types and scopes from the last one that carried
    them, the x_addrs of one of them with none having more. -/
theorem remote_table_content (l : List Service) (s : Service) (h : entry l = some s) :
    s.types = (top l).reverse.findSome? (·.types) ∧ s.scopes = (top l).reverse.findSome? (·.scopes) ∧
      (∃ a ∈ top l, s.xaddrs = a.xaddrs) ∧ ∀ a ∈ top l, a.xaddrs.length ≤ s.xaddrs.length := by
  cases ht : top l with
  | nil =>
    rw [entry_eq_none.2 (top_eq_nil.1 ht)] at h
    cases h
  | cons hd rest =>
    rw [entry_of_top ht] at h
    cases h
    exact ⟨foldl_merge_last _ merge_types rest hd, foldl_merge_last _ merge_scopes rest hd, foldl_merge_xaddrs rest hd⟩

/-- an endpoint reference that is empty is never recorded -/
theorem empty_epr_never_recorded (chk : Bytes → Bool) (r : Rules) (st : State) (hst : st.remote = []) (ms : List Msg) :
    (run chk r st ms).remote.get [] = none := by
  rw [run_remote, hst]
  exact table_fold_nil _ [] rfl

/-- **A remembered message id is not acted on.** A datagram whose id is among the remembered ids changes nothing
    (state and window) and is not answered. -/
theorem duplicate_ignored (chk : Bytes → Bool) (r : Rules) (maxlen : Nat) (n : Node) (mid : String) (m : Msg)
    (h : mid ∈ n.known) : recvDatagram chk r maxlen n mid m = (n, none) :=
  recvDatagram_of_known h

/-- **… and an id stays remembered while fewer than `maxlen` further ids are registered**: after a datagram with id
    `mid` was acted on, a second one with the same id arriving after fewer than `maxlen` other events (datagrams with
    whatever ids and content, own messages queued for sending, in any interleaving) is ignored — every id is acted on at
    most once while inside the window. -/
theorem acted_on_once_within_window (chk : Bytes → Bool) (r : Rules) (maxlen : Nat) (n : Node) (mid : String)
    (m m' : Msg) (es : List NodeEv) (hnew : mid ∉ n.known) (hlen : 1 + es.length ≤ maxlen) :
    let n1 := (recvDatagram chk r maxlen n mid m).1
    let n2 := runNode chk r maxlen n1 es
    recvDatagram chk r maxlen n2 mid m' = (n2, none) := by
  intro n1 n2
  apply recvDatagram_of_known
  show mid ∈ (runNode chk r maxlen n1 es).known
  have h1 : n1.known = UdpRepeat.push maxlen mid n.known :=
    (recvDatagram_known n mid m).trans (congrArg Prod.fst (UdpRepeat.step_recv_of_not_mem hnew))
  rw [runNode_known, h1]
  exact UdpRepeat.run_push_keeps maxlen mid n.known _ (by rw [List.length_map]; exact hlen)

/-- **Own messages are ignored.** After an own message (answer, Hello, Probe, Resolve) was queued, its id is remembered in
    the same window: when multicast loops it back after fewer than `maxlen` other events it is not acted on. -/
theorem own_message_ignored (chk : Bytes → Bool) (r : Rules) (maxlen : Nat) (n : Node) (id : String) (m : Msg)
    (es : List NodeEv) (hlen : 1 + es.length ≤ maxlen) :
    let n2 := runNode chk r maxlen (registerOwn maxlen n id) es
    recvDatagram chk r maxlen n2 id m = (n2, none) := by
  intro n2
  apply recvDatagram_of_known
  show id ∈ (runNode chk r maxlen (registerOwn maxlen n id) es).known
  rw [runNode_known]
  exact UdpRepeat.run_push_keeps maxlen id n.known _ (by rw [List.length_map]; exact hlen)

/-! ### non-vacuity -/

def exA : Service := ⟨[97], some [⟨[110], [84]⟩], some ⟨[[120, 58, 47, 97, 47, 98]], none⟩, [[104]], 1, 7⟩
def exB : Service := ⟨[98], some [], none, [], 1, 8⟩
def exSt : State := ⟨[([97], exA), ([98], exB)], []⟩

/-- a Probe for type `n:T` and scope `X:/a` (other case of the scheme) is answered for `exA` only -/
example : handle (fun _ => true) Generated.Discovery.rules exSt (.probe (some [⟨[110], [84]⟩]) (some ⟨[[88, 58, 47, 97]], none⟩))
    = .ok (exSt, [.probeMatch exA]) := by decide +kernel
example : ∀ s ∈ exSt.local_.values, Comparable (fun _ => true) Generated.Discovery.rules (some ⟨[[88, 58, 47, 97]], none⟩) s := by
  intro s hs
  have hs : s ∈ [exA, exB] := hs
  rcases List.mem_cons.1 hs with rfl | hs
  · refine ⟨fun h => (nomatch h), ?_⟩
    rintro sc ⟨⟩ u hu ssc ⟨⟩ e he
    cases List.mem_singleton.1 hu
    cases List.mem_singleton.1 he
    exact ⟨true, by decide +kernel⟩
  · cases List.mem_singleton.1 hs
    exact ⟨fun h => (nomatch h), fun sc _ u _ ssc hssc => nomatch hssc⟩
/-- Hello v2, ProbeMatches v1 (ignored), Hello v2 without types but more addresses (merged), Bye of another endpoint -/
example : (run (fun _ => true) { Generated.Discovery.rules with allowMissingApp := false } State.empty
    [.hello true { exA with mv := 2 }, .probeMatches true [{ exA with mv := 1, xaddrs := [] }],
     .hello true { exA with mv := 2, types := none, xaddrs := [[104], [105]] }, .bye [98], .hello false { exA with mv := 9 }]).remote.get [97]
    = some { exA with mv := 2, xaddrs := [[104], [105]] } := by decide +kernel
example : (recvDatagram (fun _ => true) Generated.Discovery.rules 200 ⟨["id1"], State.empty⟩ "id1" (.hello true exA)).2 = none := by
  decide +kernel
/-- window of 2: own id, one datagram, then the looped-back own id is skipped; after one more event it is forgotten -/
example : (recvDatagram (fun _ => true) Generated.Discovery.rules 2
    (runNode (fun _ => true) Generated.Discovery.rules 2 (registerOwn 2 ⟨[], State.empty⟩ "own") [.dg "a" .unknown]) "own" .unknown).2 = none ∧
  (recvDatagram (fun _ => true) Generated.Discovery.rules 2
    (runNode (fun _ => true) Generated.Discovery.rules 2 (registerOwn 2 ⟨[], State.empty⟩ "own") [.dg "a" .unknown, .own "b"]) "own" .unknown).2 = some (.ok []) := by
  decide +kernel

end Sdc.C14
