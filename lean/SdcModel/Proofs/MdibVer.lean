import SdcModel.Proofs.MdibTables
/-! The commit functions never touch `ver`: only the explicit `ver + 1` at the start of a commit does; a state or context
commit leaves the other tables alone as well. At the end: what a descriptor script returns (`commitD_empty`, `runD_cases`,
`runD_elim`, `runD_spec`), the counterpart of `runS_cases` / `runC_cases` / `run?_spec` in `MdibSC`, which needs only the model. -/
namespace Sdc.Mdib

theorem addState_ver {t t' : Tables} {s : SState} (h : addState t s = .ok t') : t'.ver = t.ver := by
  obtain ⟨_, rfl⟩ := addState_ok_iff.1 h; rfl
theorem addCtx_ver {t t' : Tables} {c : CState} (h : addCtx t c = .ok t') : t'.ver = t.ver := by
  obtain ⟨_, rfl⟩ := addCtx_ok_iff.1 h; rfl
theorem addDescr_ver {t t' : Tables} {d : Descr} (h : addDescr t d = .ok t') : t'.ver = t.ver := by
  obtain ⟨_, rfl⟩ := addDescr_ok_iff.1 h; rfl

theorem applySItems_untouched (t : Tables) (items : List (Handle × SItem)) :
    (applySItems t items).1.ver = t.ver ∧ FrS (applySItems t items).1 t := by
  induction items generalizing t with
  | nil => exact ⟨rfl, rfl, rfl, rfl, rfl⟩
  | cons p rest ih =>
    obtain ⟨h, ⟨old, new⟩⟩ := p
    rw [applySItems]
    cases old with
    | none =>
      cases hadd : addState t new with
      | error e => exact ⟨rfl, rfl, rfl, rfl, rfl⟩
      | ok t2 => exact ⟨(ih t2).1.trans (addState_ver hadd), (ih t2).2.trans (FrS.add hadd)⟩
    | some o =>
      cases hadd : addState (rmState t o.dh) new with
      | error e => exact ⟨rmState_ver t _, FrS.rm t _⟩
      | ok t2 =>
        exact ⟨(ih t2).1.trans ((addState_ver hadd).trans (rmState_ver t _)), ((ih t2).2.trans (FrS.add hadd)).trans (FrS.rm t _)⟩

theorem applySItems_ver (t : Tables) (items : List (Handle × SItem)) : (applySItems t items).1.ver = t.ver :=
  (applySItems_untouched t items).1
theorem applySItems_frame (t : Tables) (items : List (Handle × SItem)) : FrS (applySItems t items).1 t :=
  (applySItems_untouched t items).2

theorem applyCItems_untouched (t : Tables) (items : List (Handle × CItem)) :
    (applyCItems t items).1.ver = t.ver ∧ FrC (applyCItems t items).1 t := by
  induction items generalizing t with
  | nil => exact ⟨rfl, rfl, rfl, rfl, rfl⟩
  | cons p rest ih =>
    obtain ⟨h, ⟨old, new⟩⟩ := p
    cases old with
    | none =>
      cases new with
      | none => simp only [applyCItems]; exact ih t
      | some n =>
        simp only [applyCItems]
        split
        · exact ⟨rfl, rfl, rfl, rfl, rfl⟩
        · rename_i t2 hadd; exact ⟨(ih t2).1.trans (addCtx_ver hadd), (ih t2).2.trans (FrC.add hadd)⟩
    | some o =>
      cases new with
      | none => simp only [applyCItems]; exact ⟨(ih _).1.trans (rmCtx_ver t _), (ih _).2.trans (FrC.rm t _)⟩
      | some n =>
        simp only [applyCItems]
        split
        · exact ⟨rmCtx_ver t _, FrC.rm t _⟩
        · rename_i t2 hadd
          exact ⟨(ih t2).1.trans ((addCtx_ver hadd).trans (rmCtx_ver t _)), ((ih t2).2.trans (FrC.add hadd)).trans (FrC.rm t _)⟩

theorem applyCItems_ver (t : Tables) (items : List (Handle × CItem)) : (applyCItems t items).1.ver = t.ver :=
  (applyCItems_untouched t items).1
theorem applyCItems_frame (t : Tables) (items : List (Handle × CItem)) : FrC (applyCItems t items).1 t :=
  (applyCItems_untouched t items).2

@[simp] theorem updCorresponding_t (c : DCommit) (d : Descr) : (updCorresponding c d).t = c.t := by
  unfold updCorresponding
  split
  · rfl
  · split
    · rfl
    · split <;> rfl

@[simp] theorem replaceDescr_ver (t : Tables) (d : Descr) : (replaceDescr t d).ver = t.ver := rfl
@[simp] theorem reindexDescr_ver (t : Tables) (d : Descr) : (reindexDescr t d).ver = t.ver := rfl

@[simp] theorem incParent_ver (c : DCommit) (p : Handle) : (incParent c p).t.ver = c.t.ver := by
  unfold incParent
  split
  · rfl
  · split
    · rfl
    · simp

theorem foldl_rmCtx_ver (l : List CState) (t : Tables) : (l.foldl (fun t c => rmCtx t c.h) t).ver = t.ver := by
  induction l generalizing t with
  | nil => rfl
  | cons c cs ih => simp [List.foldl, ih]

@[simp] theorem rmDescrAndStates_ver (t : Tables) (d : Descr) : (rmDescrAndStates t d).ver = t.ver := by
  unfold rmDescrAndStates
  simp [foldl_rmCtx_ver]

theorem foldl_rmDescrAndStates_ver (l : List Descr) (t : Tables) : (l.foldl rmDescrAndStates t).ver = t.ver := by
  induction l generalizing t with
  | nil => rfl
  | cons c cs ih => simp [List.foldl, ih]

theorem commitDItem_ver (toDel toCreate toUpdate : List Handle) (c : DCommit) (it : DItem) :
    (commitDItem toDel toCreate toUpdate c it).1.t.ver = c.t.ver := by
  unfold commitDItem
  split
  · -- create
    split
    · rfl
    · rename_i t1 hadd
      have := addDescr_ver hadd
      simp only [updCorresponding_t]
      split
      · split <;> simp [this]
      · simp [this]
  · -- delete
    split
    · rfl
    · simp only
      split
      · split <;> simp [foldl_rmDescrAndStates_ver]
      · simp [foldl_rmDescrAndStates_ver]
  · -- update
    simp only
    split <;> simp
  · rfl

theorem commitDItems_ver (toDel toCreate toUpdate : List Handle) (c : DCommit) (items : List (Handle × DItem)) :
    (commitDItems toDel toCreate toUpdate c items).1.t.ver = c.t.ver := by
  induction items generalizing c with
  | nil => rfl
  | cons it rest ih =>
    obtain ⟨h, it⟩ := it
    simp only [commitDItems]
    have := commitDItem_ver toDel toCreate toUpdate c it
    split
    · rename_i c1 e heq
      rw [heq] at this; exact this
    · rename_i c1 heq
      rw [heq] at this
      rw [ih]; exact this

theorem applyKind_ver (c : DCommit) (k : Kind) : (applyKind c k).1.t.ver = c.t.ver := by
  simp [applyKind, applySItems_ver]

theorem applyKinds_ver (c : DCommit) (ks : List Kind) : (applyKinds c ks).1.t.ver = c.t.ver := by
  induction ks generalizing c with
  | nil => rfl
  | cons k ks ih =>
    simp only [applyKinds]
    have := applyKind_ver c k
    split
    · rename_i c1 e heq; rw [heq] at this; exact this
    · rename_i c1 heq; rw [heq] at this; rw [ih]; exact this

theorem applyCtx_ver (c : DCommit) : (applyCtx c).1.t.ver = c.t.ver := by
  simp [applyCtx, applyCItems_ver]

theorem commitStates_ver (c : DCommit) : (commitStates c).1.t.ver = c.t.ver := by
  unfold commitStates
  have h1 := applyKinds_ver c [.alert, .metric]
  split
  · rename_i c1 e heq; rw [heq] at h1; exact h1
  · rename_i c1 heq
    rw [heq] at h1
    have h2 := applyCtx_ver c1
    split
    · rename_i c2 e heq2; rw [heq2] at h2; exact h2.trans h1
    · rename_i c2 heq2
      rw [heq2] at h2
      rw [applyKinds_ver]; exact h2.trans h1

theorem commitD_ver (t : Tables) (tx : DTx) (hne : tx.descr.isEmpty = false) (hc : consistentD t tx = true) :
    (commitD t tx).1.ver = t.ver + 1 := by
  unfold commitD
  simp only [hne, hc, Bool.false_eq_true, if_false, Bool.not_true]
  have h1 := commitDItems_ver (deletedHandles t tx) (toCreateOf tx) (toUpdateOf tx) { t := { t with ver := t.ver + 1 }, tx := tx } tx.descr
  split
  · rename_i c e heq; rw [heq] at h1; exact h1
  · rename_i c heq
    rw [heq] at h1
    have := commitStates_ver c
    simp only at this ⊢
    rw [this]; exact h1

theorem commitD_empty {t : Tables} {tx : DTx} (h : tx.descr.isEmpty = true) : commitD t tx = (t, {}, none) := by
  rw [commitD, if_pos h]

/-- a descriptor commit that went through had passed the consistency check -/
theorem commitD_ver_of_ok {t : Tables} {tx : DTx} (h : tx.descr.isEmpty = false) (he : (commitD t tx).2.2 = none) :
    (commitD t tx).1.ver = t.ver + 1 := by
  cases hc : consistentD t tx with
  | true => exact commitD_ver t tx h hc
  | false =>
    unfold commitD at he
    rw [if_neg (by rw [h]; nofun), if_pos (by rw [hc]; rfl)] at he
    cases he

theorem runD_cases {t : Tables} {s : DScript} {P : Tables × TxResult × Outcome → Prop} (h1 : P (t, {}, .rejected))
    (h2 : s.raiseAtEnd = true → P (t, {}, .aborted))
    (h3 : ∀ tx e, runCalls (dCall t) s.catchErrors { newVer := t.ver + 1 } s.calls = .ok tx → s.raiseAtEnd = false →
      (commitD t tx).2.2 = some e → P ((commitD t tx).1, {}, .commitFailed))
    (h4 : ∀ tx, runCalls (dCall t) s.catchErrors { newVer := t.ver + 1 } s.calls = .ok tx → s.raiseAtEnd = false →
      (commitD t tx).2.2 = none →
      P ((commitD t tx).1, (commitD t tx).2.1, if tx.descr.isEmpty then .empty else .committed)) : P (runD t s) := by
  unfold runD
  cases htx : runCalls (dCall t) s.catchErrors { newVer := t.ver + 1 } s.calls with
  | error e => exact h1
  | ok tx =>
    dsimp only
    cases ha : s.raiseAtEnd with
    | true => exact h2 ha
    | false =>
      have a := h3 tx; have b := h4 tx htx ha
      generalize commitD t tx = r at a b
      obtain ⟨t', r, _ | e⟩ := r
      · exact b rfl
      · exact a e htx ha rfl

theorem runD_elim {t : Tables} {s : DScript} {P : Tables × TxResult × Outcome → Prop} (h1 : P (t, {}, .rejected))
    (h2 : P (t, {}, .aborted))
    (h3 : ∀ tx e, runCalls (dCall t) s.catchErrors { newVer := t.ver + 1 } s.calls = .ok tx → (commitD t tx).2.2 = some e →
      P ((commitD t tx).1, {}, .commitFailed))
    (h4 : ∀ tx, runCalls (dCall t) s.catchErrors { newVer := t.ver + 1 } s.calls = .ok tx → (commitD t tx).2.2 = none →
      P ((commitD t tx).1, (commitD t tx).2.1, if tx.descr.isEmpty then .empty else .committed)) : P (runD t s) :=
  runD_cases h1 (fun _ => h2) (fun tx e htx _ => h3 tx e htx) (fun tx htx _ => h4 tx htx)

theorem runD_spec (t : Tables) (s : DScript) :
    (∃ o, runD t s = (t, {}, o) ∧ (o = .rejected ∨ o = .aborted ∨ o = .empty)) ∨
    ∃ tx, runCalls (dCall t) s.catchErrors { newVer := t.ver + 1 } s.calls = .ok tx ∧ s.raiseAtEnd = false ∧
      tx.descr.isEmpty = false ∧
      (((commitD t tx).2.2 = none ∧ runD t s = ((commitD t tx).1, (commitD t tx).2.1, .committed)) ∨
       ((commitD t tx).2.2 ≠ none ∧ runD t s = ((commitD t tx).1, {}, .commitFailed))) := by
  refine runD_cases (P := fun r => runD t s = r → _) (fun e => .inl ⟨_, e, .inl rfl⟩) (fun _ e => .inl ⟨_, e, .inr (.inl rfl)⟩)
    (fun tx e htx hr he eq => ?_) (fun tx htx hr he eq => ?_) rfl
  · refine .inr ⟨tx, htx, hr, Bool.eq_false_iff.2 (fun hE => ?_), .inr ⟨by rw [he]; nofun, eq⟩⟩
    rw [commitD_empty hE] at he; cases he
  · cases hE : tx.descr.isEmpty with
    | true => rw [hE, commitD_empty hE] at eq; exact .inl ⟨_, eq, .inr (.inr rfl)⟩
    | false => rw [hE] at eq; exact .inr ⟨tx, htx, hr, hE, .inl ⟨he, eq⟩⟩

end Sdc.Mdib
