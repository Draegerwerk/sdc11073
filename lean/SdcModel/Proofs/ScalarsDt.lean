import SdcModel.ScalarsDt
import SdcModel.Proofs.ScalarsStr
/-! `parse_date_time` / `XsdDateInformation.__str__` (core Lean only). For each reader (`take2`, `tzEnd`, `takeField`,
    `takeTime`, the optional groups behind year, month and day) two facts: what it returns on a rendered field followed
    by anything, and that whatever it accepts has the shape of the grammar. From the first kind
    `parse_date_time (str info) = info`, from the second the lexical space `DateTimeLex`. -/
namespace Sdc.Scalars

theorem take2_cons (a b : Nat) (r : Str) :
    take2 (a :: b :: r) = if isDigit a ∧ isDigit b then some (digitVal a * 10 + digitVal b, r) else none := rfl

theorem take2_pad2 (n : Nat) (r : Str) (h : n < 100) : take2 (pad2 n ++ r) = some (n, r) := by
  have h1 := isDigit_add (n / 10) (Nat.div_lt_of_lt_mul h)
  have h2 := isDigit_add (n % 10) (Nat.mod_lt n (by decide))
  show take2 ((48 + n / 10) :: (48 + n % 10) :: r) = _
  rw [take2_cons, if_pos ⟨h1, h2⟩, digitVal_add, digitVal_add, Nat.div_add_mod']

theorem take2_cases (s : Str) :
    take2 s = none ∨ ∃ a b r, s = a :: b :: r ∧ isDigit a = true ∧ isDigit b = true ∧
      take2 s = some (digitVal a * 10 + digitVal b, r) := by
  cases s with
  | nil => exact Or.inl rfl
  | cons a t =>
    cases t with
    | nil => exact Or.inl rfl
    | cons b r =>
      rw [take2_cons]
      by_cases hc : isDigit a = true ∧ isDigit b = true
      · rw [if_pos hc]; exact Or.inr ⟨a, b, r, rfl, hc.1, hc.2, rfl⟩
      · rw [if_neg hc]; exact Or.inl rfl

theorem visible_pad2 (n : Nat) : Visible (pad2 n) :=
  visible_cons (Nat.lt_of_lt_of_le (by decide) (Nat.le_add_right 48 _))
    (visible_cons (Nat.lt_of_lt_of_le (by decide) (Nat.le_add_right 48 _)) fun _ hc => nomatch hc)

/-- a utc offset that `tzStr` / `tzEnd` can carry: within ±14:00, in minutes -/
def TzWF (tz : Option Int) : Prop := ∀ o, tz = some o → -840 ≤ o ∧ o ≤ 840

/-- `Z | [+-](0\d|1[0-3]):[0-5]\d | [+-]14:00`, or absent -/
def TzLex (t : Str) : Prop :=
  t = [] ∨ t = [90] ∨ ∃ c a b d e, t = [c, a, b, 58, d, e] ∧ (c = 43 ∨ c = 45) ∧
    isDigit a = true ∧ isDigit b = true ∧ isDigit d = true ∧ isDigit e = true ∧
    digitVal a * 10 + digitVal b ≤ 14 ∧ digitVal d * 10 + digitVal e ≤ 59 ∧
    (digitVal a * 10 + digitVal b = 14 → digitVal d * 10 + digitVal e = 0)

theorem tzStr_head (tz : Option Int) : ∀ c, (tzStr tz).head? = some c → c = 90 ∨ c = 43 ∨ c = 45 := by
  intro c hc
  unfold tzStr at hc
  split at hc
  · cases hc
  · split at hc
    · cases hc; exact Or.inl rfl
    · split at hc <;> cases hc
      · exact Or.inr (Or.inl rfl)
      · exact Or.inr (Or.inr rfl)

theorem tzHead_not_digit {c : Nat} (h : c = 90 ∨ c = 43 ∨ c = 45) : isDigit c = false := by
  rcases h with rfl | rfl | rfl <;> rfl

theorem tzStr_head_not_digit (tz : Option Int) : ∀ c, (tzStr tz).head? = some c → isDigit c = false :=
  fun c hc => tzHead_not_digit (tzStr_head tz c hc)

theorem tzEnd_offset (c hh mm : Nat) (hc : c = 43 ∨ c = 45) (h1 : hh < 100) (h2 : mm < 100) :
    tzEnd (c :: (pad2 hh ++ 58 :: pad2 mm)) =
      if hh ≤ 14 ∧ mm ≤ 59 ∧ ¬ (hh = 14 ∧ mm ≠ 0) then
        some (some (if c = 45 then - ((hh * 60 + mm : Nat) : Int) else ((hh * 60 + mm : Nat) : Int)))
      else none := by
  have hm := take2_pad2 mm [] h2
  rw [List.append_nil] at hm
  have hc90 : c ≠ 90 := by rcases hc with rfl | rfl <;> decide
  unfold tzEnd
  dsimp only
  rw [if_neg hc90, if_pos hc, take2_pad2 hh _ h1]
  dsimp only
  rw [hm]
  simp only [List.isEmpty_nil, true_and]

theorem tz_parts (o : Int) (h : -840 ≤ o ∧ o ≤ 840) :
    o.natAbs / 60 ≤ 14 ∧ o.natAbs % 60 ≤ 59 ∧ ¬ (o.natAbs / 60 = 14 ∧ o.natAbs % 60 ≠ 0) := by
  have hn : o.natAbs ≤ 840 := by omega
  omega

theorem tzEnd_tzStr (tz : Option Int) (h : TzWF tz) : tzEnd (tzStr tz) = some tz := by
  cases tz with
  | none => rfl
  | some o =>
    have hr := tz_parts o (h o rfl)
    have key := fun c hc => tzEnd_offset c (o.natAbs / 60) (o.natAbs % 60) hc
      (Nat.lt_of_le_of_lt hr.1 (by decide)) (Nat.lt_of_le_of_lt hr.2.1 (by decide))
    simp only [if_pos hr, Nat.div_add_mod'] at key
    unfold tzStr
    dsimp only
    by_cases h0 : o = 0
    · rw [if_pos h0, h0]; rfl
    · rw [if_neg h0, List.append_assoc, List.append_assoc, List.singleton_append]
      by_cases hp : 0 ≤ o
      · rw [if_pos hp, List.singleton_append, key 43 (Or.inl rfl), if_neg (by decide), Int.natAbs_of_nonneg hp]
      · rw [if_neg hp, List.singleton_append, key 45 (Or.inr rfl), if_pos rfl,
          Int.ofNat_natAbs_of_nonpos (Int.le_of_lt (Int.not_le.mp hp)), Int.neg_neg]

theorem tzEnd_colon (r : Str) : tzEnd (58 :: r) = none := by
  rw [tzEnd, if_neg (by decide), if_neg (by decide)]

theorem tzEnd_some (s : Str) (tz : Option Int) (h : tzEnd s = some tz) : TzLex s := by
  cases s with
  | nil => exact Or.inl rfl
  | cons c r =>
    unfold tzEnd at h
    dsimp only at h
    by_cases hc : c = 90
    · rw [if_pos hc] at h
      by_cases hr : r.isEmpty = true
      · rw [hc, List.isEmpty_iff.mp hr]; exact Or.inr (Or.inl rfl)
      · rw [if_neg hr] at h; cases h
    · rw [if_neg hc] at h
      by_cases hsign : c = 43 ∨ c = 45
      · rw [if_pos hsign] at h
        rcases take2_cases r with h1 | ⟨a, b, r1, rfl, ha, hb, h1⟩ <;> rw [h1] at h
        · cases h
        · cases r1 with
          | nil => cases h
          | cons c1 r2 =>
            dsimp only at h
            rcases take2_cases r2 with h2 | ⟨d, e, r3, rfl, hd, he, h2⟩ <;> rw [h2] at h
            · cases h
            · dsimp only at h
              split at h
              · rename_i hcond
                obtain ⟨rfl, hr3, h14, h59, hx⟩ := hcond
                rw [List.isEmpty_iff.mp hr3]
                exact Or.inr (Or.inr ⟨c, a, b, d, e, rfl, hsign, ha, hb, hd, he, h14, h59,
                  fun h => Decidable.byContradiction fun hne => hx ⟨h, hne⟩⟩)
              · cases h
      · rw [if_neg hsign] at h; cases h

/-- `-NN` with `lo ≤ NN ≤ hi` -/
def FieldLex (lo hi : Nat) (t : Str) : Prop :=
  ∃ a b, t = [45, a, b] ∧ isDigit a = true ∧ isDigit b = true ∧
    lo ≤ digitVal a * 10 + digitVal b ∧ digitVal a * 10 + digitVal b ≤ hi

theorem takeField_pad2 (lo hi v : Nat) (r : Str) (h : v < 100) :
    takeField lo hi (45 :: (pad2 v ++ r)) = if lo ≤ v ∧ v ≤ hi then some (v, r) else none := by
  unfold takeField
  dsimp only
  rw [if_neg (not_not_intro rfl), take2_pad2 v r h]

theorem takeField_some (lo hi : Nat) (s : Str) (v : Nat) (r : Str) (h : takeField lo hi s = some (v, r)) :
    ∃ f, s = f ++ r ∧ FieldLex lo hi f := by
  cases s with
  | nil => cases h
  | cons c r0 =>
    unfold takeField at h
    dsimp only at h
    by_cases hc : c ≠ 45
    · rw [if_pos hc] at h; cases h
    · rw [if_neg hc] at h
      rcases take2_cases r0 with h1 | ⟨a, b, r1, rfl, ha, hb, h1⟩ <;> rw [h1] at h
      · cases h
      · dsimp only at h
        split at h
        · rename_i hrange
          cases h
          exact ⟨[45, a, b], by rw [Decidable.not_not.mp hc]; rfl, a, b, rfl, ha, hb, hrange.1, hrange.2⟩
        · cases h

theorem takeField_colon (lo hi : Nat) (r : Str) : takeField lo hi (58 :: r) = none := by
  rw [takeField, if_pos (by decide)]

/-- `T hh:mm:ss(.f+)?` with hh ≤ 23, mm ≤ 59, ss ≤ 59, or `T24:00:00(.0+)?` -/
def TimeLex (t : Str) : Prop :=
  ∃ a b c d e f fr, t = 84 :: a :: b :: 58 :: c :: d :: 58 :: e :: f :: (if fr = [] then [] else 46 :: fr) ∧
    isDigit a = true ∧ isDigit b = true ∧ isDigit c = true ∧ isDigit d = true ∧ isDigit e = true ∧ isDigit f = true ∧
    (∀ x ∈ fr, isDigit x = true) ∧
    ((digitVal a * 10 + digitVal b ≤ 23 ∧ digitVal c * 10 + digitVal d ≤ 59 ∧ digitVal e * 10 + digitVal f ≤ 59) ∨
     (digitVal a * 10 + digitVal b = 24 ∧ digitVal c * 10 + digitVal d = 0 ∧ digitVal e * 10 + digitVal f = 0 ∧
      ∀ x ∈ fr, x = 48))

/-- the fraction with its point, as `TimeLex` spells it; what `secStr` writes for a canonical fraction -/
def fracPart (fr : Str) : Str := if fr = [] then [] else 46 :: fr

theorem takeFrac_fracPart (fr rest : Str) (hd : ∀ c ∈ fr, isDigit c = true)
    (hr : ∀ c, rest.head? = some c → c = 90 ∨ c = 43 ∨ c = 45) : takeFrac (fracPart fr ++ rest) = (fr, rest) := by
  have hnd : ∀ c, rest.head? = some c → isDigit c = false := fun c hc => tzHead_not_digit (hr c hc)
  unfold fracPart takeFrac
  cases fr with
  | nil =>
    rw [if_pos rfl, List.nil_append]
    cases rest with
    | nil => rfl
    | cons c r =>
      dsimp only
      rw [if_neg fun h => by rcases hr c rfl with rfl | rfl | rfl <;> exact absurd h.1 (by decide)]
  | cons a fr' =>
    have hsp := span_append (a :: fr') rest hd hnd
    rw [if_neg (List.cons_ne_nil a fr'), List.cons_append]
    dsimp only
    rw [hsp.1, hsp.2, if_pos ⟨rfl, Bool.false_ne_true⟩]

theorem takeFrac_spec (r5 : Str) :
    r5 = (if (takeFrac r5).1 = [] then [] else 46 :: (takeFrac r5).1) ++ (takeFrac r5).2 ∧
      ∀ x ∈ (takeFrac r5).1, isDigit x = true := by
  unfold takeFrac
  split
  · rename_i d r6
    split
    · rename_i hc
      have hne : r6.takeWhile isDigit ≠ [] := fun h0 => hc.2 (List.isEmpty_iff.mpr h0)
      dsimp only
      rw [if_neg hne, hc.1, List.cons_append, List.takeWhile_append_dropWhile]
      exact ⟨rfl, mem_takeWhile r6⟩
    · exact ⟨rfl, fun _ hx => nomatch hx⟩
  · exact ⟨rfl, fun _ hx => nomatch hx⟩

theorem takeTime_pad2 (hh mm ss : Nat) (rest : Str) (h1 : hh < 100) (h2 : mm < 100) (h3 : ss < 100) :
    takeTime (84 :: (pad2 hh ++ 58 :: (pad2 mm ++ 58 :: (pad2 ss ++ rest)))) =
      if hh ≤ 23 ∧ mm ≤ 59 ∧ ss ≤ 59 then some (some (hh, mm, ss, (takeFrac rest).1), false, (takeFrac rest).2)
      else if hh = 24 ∧ mm = 0 ∧ ss = 0 ∧ (takeFrac rest).1.all (· == 48) then some (none, true, (takeFrac rest).2)
      else none := by
  unfold takeTime
  dsimp only
  rw [if_neg (not_not_intro rfl), take2_pad2 hh _ h1]
  dsimp only
  rw [take2_pad2 mm _ h2]
  dsimp only
  rw [take2_pad2 ss _ h3]
  dsimp only
  rw [if_neg (by decide)]

theorem takeTime_head (s : Str) (h : ∀ c, s.head? = some c → c ≠ 84) : takeTime s = none := by
  cases s with
  | nil => rfl
  | cons c r => rw [takeTime, if_pos (h c rfl)]

theorem takeTime_some (s : Str) (tm : Option (Nat × Nat × Nat × Str)) (eod : Bool) (r : Str)
    (h : takeTime s = some (tm, eod, r)) : ∃ t, s = t ++ r ∧ TimeLex t := by
  cases s with
  | nil => cases h
  | cons t r0 =>
    unfold takeTime at h
    dsimp only at h
    by_cases ht : t ≠ 84
    · rw [if_pos ht] at h; cases h
    · rw [if_neg ht] at h
      rw [Decidable.not_not.mp ht]
      rcases take2_cases r0 with h1 | ⟨a, b, r1, rfl, ha, hb, h1⟩ <;> rw [h1] at h
      · cases h
      · cases r1 with
        | nil => cases h
        | cons c1 r2 =>
          dsimp only at h
          rcases take2_cases r2 with h2 | ⟨c, d, r3, rfl, hc, hd, h2⟩ <;> rw [h2] at h
          · cases h
          · cases r3 with
            | nil => cases h
            | cons c2 r4 =>
              dsimp only at h
              rcases take2_cases r4 with h3 | ⟨e, f, r5, rfl, he, hf, h3⟩ <;> rw [h3] at h
              · cases h
              · dsimp only at h
                by_cases hcol : c1 ≠ 58 ∨ c2 ≠ 58
                · rw [if_pos hcol] at h; cases h
                · rw [if_neg hcol] at h
                  obtain ⟨hc1, hc2⟩ := not_or.mp hcol
                  obtain ⟨hsplit, hfd⟩ := takeFrac_spec r5
                  rw [Decidable.not_not.mp hc1, Decidable.not_not.mp hc2]
                  -- the time is everything up to the fraction, the rest is what `takeFrac` leaves
                  have hlex : ∀ (hrange : _), TimeLex (84 :: a :: b :: 58 :: c :: d :: 58 :: e :: f ::
                      (if (takeFrac r5).1 = [] then [] else 46 :: (takeFrac r5).1)) :=
                    fun hrange => ⟨a, b, c, d, e, f, _, rfl, ha, hb, hc, hd, he, hf, hfd, hrange⟩
                  split at h
                  · rename_i hrange
                    cases h
                    exact ⟨_, congrArg (84 :: a :: b :: 58 :: c :: d :: 58 :: e :: f :: ·) hsplit, hlex (Or.inl hrange)⟩
                  · split at h
                    · rename_i heod
                      cases h
                      exact ⟨_, congrArg (84 :: a :: b :: 58 :: c :: d :: 58 :: e :: f :: ·) hsplit,
                        hlex (Or.inr ⟨heod.1, heod.2.1, heod.2.2.1,
                          fun x hx => eq_of_beq (List.all_eq_true.mp heod.2.2.2 x hx)⟩)⟩
                    · cases h

/-- a time that survives `timeStr` / `takeTime`: fields in range, fraction canonical (`secStr` strips trailing zeros) -/
def TimeWF (tm : Option (Nat × Nat × Nat × Str)) (eod : Bool) : Prop :=
  (eod = true → tm = none) ∧
  ∀ hh mm ss fr, tm = some (hh, mm, ss, fr) → hh ≤ 23 ∧ mm ≤ 59 ∧ ss ≤ 59 ∧ (∀ c ∈ fr, isDigit c = true) ∧ rstrip0 fr = fr

theorem afterDay_colon (r : Str) : afterDay (58 :: r) = none := by
  rw [afterDay, takeTime_head _ fun c hc => by cases hc; decide, tzEnd_colon]; rfl

theorem afterDay_tz (tz : Option Int) (h : TzWF tz) : afterDay (tzStr tz) = some (none, false, tz) := by
  rw [afterDay, takeTime_head _ fun c hc => by rcases tzStr_head tz c hc with rfl | rfl | rfl <;> decide,
    tzEnd_tzStr tz h]
  rfl

theorem afterDay_of_time (s : Str) (tm : Option (Nat × Nat × Nat × Str)) (eod : Bool) (r : Str) (tz : Option Int)
    (ht : takeTime s = some (tm, eod, r)) (hz : tzEnd r = some tz) : afterDay s = some (tm, eod, tz) := by
  rw [afterDay, ht]
  dsimp only [Option.bind_some]
  rw [hz]
  rfl

theorem afterDay_timeStr (tm : Option (Nat × Nat × Nat × Str)) (eod : Bool) (tz : Option Int)
    (hw : TimeWF tm eod) (htz : TzWF tz) : afterDay (timeStr tm eod ++ tzStr tz) = some (tm, eod, tz) := by
  unfold timeStr
  cases eod with
  | true =>
    have e : [84, 50, 52, 58, 48, 48, 58, 48, 48] ++ tzStr tz
        = 84 :: (pad2 24 ++ 58 :: (pad2 0 ++ 58 :: (pad2 0 ++ (fracPart [] ++ tzStr tz)))) := rfl
    rw [hw.1 rfl, if_pos rfl, e]
    refine afterDay_of_time _ _ _ _ _ ?_ (tzEnd_tzStr tz htz)
    rw [takeTime_pad2 24 0 0 _ (by decide) (by decide) (by decide),
      takeFrac_fracPart [] _ (fun _ hc => nomatch hc) (tzStr_head tz), if_neg (by decide), if_pos ⟨rfl, rfl, rfl, rfl⟩]
  | false =>
    rw [if_neg Bool.false_ne_true]
    cases tm with
    | none => exact afterDay_tz tz htz
    | some t =>
      obtain ⟨hh, mm, ss, fr⟩ := t
      obtain ⟨h1, h2, h3, hd, hr⟩ := hw.2 hh mm ss fr rfl
      have e : [84] ++ pad2 hh ++ [58] ++ pad2 mm ++ [58] ++ secStr ss fr ++ tzStr tz
          = 84 :: (pad2 hh ++ 58 :: (pad2 mm ++ 58 :: (pad2 ss ++ (fracPart fr ++ tzStr tz)))) := by
        rw [secStr, hr]
        simp only [fracPart, List.isEmpty_iff, List.append_assoc, List.cons_append, List.nil_append]
      dsimp only
      rw [e]
      refine afterDay_of_time _ _ _ _ _ ?_ (tzEnd_tzStr tz htz)
      rw [takeTime_pad2 hh mm ss _ (Nat.lt_of_le_of_lt h1 (by decide)) (Nat.lt_of_le_of_lt h2 (by decide))
        (Nat.lt_of_le_of_lt h3 (by decide)), takeFrac_fracPart fr _ hd (tzStr_head tz), if_pos ⟨h1, h2, h3⟩]

theorem afterDay_some (s : Str) (x) (h : afterDay s = some x) :
    ∃ tm tz, s = tm ++ tz ∧ (tm = [] ∨ TimeLex tm) ∧ TzLex tz := by
  unfold afterDay at h
  rcases Option.or_eq_some_iff.mp h with h1 | ⟨_, h2⟩
  · obtain ⟨⟨tm, eod, r⟩, ht, h1⟩ := Option.bind_eq_some_iff.mp h1
    obtain ⟨tz, hz, _⟩ := Option.map_eq_some_iff.mp h1
    obtain ⟨t, hs, hl⟩ := takeTime_some s tm eod r ht
    exact ⟨t, r, hs, Or.inr hl, tzEnd_some r tz hz⟩
  · obtain ⟨tz, hz, _⟩ := Option.map_eq_some_iff.mp h2
    exact ⟨[], s, rfl, Or.inl rfl, tzEnd_some s tz hz⟩

/-- common form of the model's `afterMonth` / `afterYear`: optional `-NN` group and what follows, else the time zone -/
def optGroup {β : Type} (lo hi : Nat) (next : Str → Option β) (dflt : Option Int → β) (s : Str) :
    Option (Option Nat × β) :=
  ((takeField lo hi s).bind fun x => (next x.2).map fun y => (some x.1, y)).or
    ((tzEnd s).map fun tz => (none, dflt tz))

theorem afterMonth_eq : afterMonth = optGroup 1 31 afterDay fun tz => (none, false, tz) := rfl
theorem afterYear_eq : afterYear = optGroup 1 12 afterMonth fun tz => (none, none, false, tz) := rfl

section
variable {β : Type} (lo hi : Nat) (next : Str → Option β) (dflt : Option Int → β)

theorem optGroup_colon (r : Str) : optGroup lo hi next dflt (58 :: r) = none := by
  rw [optGroup, takeField_colon, tzEnd_colon]; rfl

theorem optGroup_hit (v : Nat) (r : Str) (y : β) (h1 : lo ≤ v) (h2 : v ≤ hi) (h3 : v < 100) (hn : next r = some y) :
    optGroup lo hi next dflt (45 :: (pad2 v ++ r)) = some (some v, y) := by
  rw [optGroup, takeField_pad2 lo hi v r h3, if_pos ⟨h1, h2⟩]
  dsimp only [Option.bind_some]
  rw [hn]
  rfl

/-- the group cannot swallow the beginning of a time zone: what `next` would then see starts with `:` -/
theorem optGroup_tz (hcolon : ∀ r, next (58 :: r) = none) (tz : Option Int) (htz : TzWF tz) :
    optGroup lo hi next dflt (tzStr tz) = some (none, dflt tz) := by
  have inner : ((takeField lo hi (tzStr tz)).bind fun x => (next x.2).map fun y => (some x.1, y)) = none := by
    cases tz with
    | none => rfl
    | some o =>
      unfold tzStr
      dsimp only
      split
      · rfl
      · split
        · rfl
        · rw [List.append_assoc, List.append_assoc, List.singleton_append,
            takeField_pad2 lo hi _ _ (Nat.lt_of_le_of_lt (tz_parts o (htz o rfl)).1 (by decide))]
          split
          · dsimp only [Option.bind_some]
            rw [List.singleton_append, hcolon]
            rfl
          · rfl
  rw [optGroup, inner, tzEnd_tzStr tz htz]
  rfl

theorem optGroup_some (s : Str) (o : Option Nat) (y : β) (h : optGroup lo hi next dflt s = some (o, y)) :
    (∃ f r, s = f ++ r ∧ FieldLex lo hi f ∧ next r = some y) ∨ (∃ tz, tzEnd s = some tz) := by
  rcases Option.or_eq_some_iff.mp h with h1 | ⟨_, h2⟩
  · obtain ⟨⟨v, r⟩, hf, h1⟩ := Option.bind_eq_some_iff.mp h1
    obtain ⟨y', hy, he⟩ := Option.map_eq_some_iff.mp h1
    obtain ⟨f, hs, hl⟩ := takeField_some lo hi s v r hf
    cases he
    exact Or.inl ⟨f, r, hs, hl, hy⟩
  · obtain ⟨tz, hz, _⟩ := Option.map_eq_some_iff.mp h2
    exact Or.inr ⟨tz, hz⟩

end

theorem afterMonth_colon (r : Str) : afterMonth (58 :: r) = none := by
  rw [afterMonth_eq]; exact optGroup_colon _ _ _ _ r

theorem afterMonth_render (d : Option Nat) (tm : Option (Nat × Nat × Nat × Str)) (eod : Bool) (tz : Option Int)
    (hd : ∀ v, d = some v → 1 ≤ v ∧ v ≤ 31) (hnd : d = none → tm = none ∧ eod = false)
    (hw : TimeWF tm eod) (htz : TzWF tz) :
    afterMonth (dayStr d ++ (timeStr tm eod ++ tzStr tz)) = some (d, tm, eod, tz) := by
  rw [afterMonth_eq]
  cases d with
  | none =>
    rw [(hnd rfl).1, (hnd rfl).2]
    exact optGroup_tz _ _ _ _ afterDay_colon tz htz
  | some v =>
    obtain ⟨h1, h2⟩ := hd v rfl
    exact optGroup_hit _ _ _ _ v _ _ h1 h2 (Nat.lt_of_le_of_lt h2 (by decide)) (afterDay_timeStr tm eod tz hw htz)

theorem afterYear_render (m d : Option Nat) (tm : Option (Nat × Nat × Nat × Str)) (eod : Bool) (tz : Option Int)
    (hm : ∀ v, m = some v → 1 ≤ v ∧ v ≤ 12) (hnm : m = none → d = none)
    (hd : ∀ v, d = some v → 1 ≤ v ∧ v ≤ 31) (hnd : d = none → tm = none ∧ eod = false)
    (hw : TimeWF tm eod) (htz : TzWF tz) :
    afterYear (dayStr m ++ (dayStr d ++ (timeStr tm eod ++ tzStr tz))) = some (m, d, tm, eod, tz) := by
  rw [afterYear_eq]
  cases m with
  | none =>
    rw [hnm rfl, (hnd (hnm rfl)).1, (hnd (hnm rfl)).2]
    exact optGroup_tz _ _ _ _ afterMonth_colon tz htz
  | some v =>
    obtain ⟨h1, h2⟩ := hm v rfl
    exact optGroup_hit _ _ _ _ v _ _ h1 h2 (Nat.lt_of_le_of_lt h2 (by decide)) (afterMonth_render d tm eod tz hd hnd hw htz)

theorem fieldLex_ne_nil {lo hi : Nat} {f : Str} (h : FieldLex lo hi f) : f ≠ [] := by
  obtain ⟨a, b, rfl, _⟩ := h
  exact List.cons_ne_nil _ _

theorem afterMonth_some (s : Str) (x) (h : afterMonth s = some x) :
    ∃ d tm tz, s = d ++ (tm ++ tz) ∧ (d = [] ∨ FieldLex 1 31 d) ∧ (tm = [] ∨ TimeLex tm) ∧ (d = [] → tm = []) ∧ TzLex tz := by
  rw [afterMonth_eq] at h
  rcases optGroup_some _ _ _ _ s x.1 x.2 h with ⟨f, r, hs, hl, hn⟩ | ⟨tz, hz⟩
  · obtain ⟨tm, tz, hr, htm, htz⟩ := afterDay_some r _ hn
    exact ⟨f, tm, tz, by rw [hs, hr], Or.inr hl, htm, fun h0 => absurd h0 (fieldLex_ne_nil hl), htz⟩
  · exact ⟨[], [], s, rfl, Or.inl rfl, Or.inl rfl, fun _ => rfl, tzEnd_some s tz hz⟩

theorem afterYear_some (s : Str) (x) (h : afterYear s = some x) :
    ∃ mo d tm tz, s = mo ++ (d ++ (tm ++ tz)) ∧ (mo = [] ∨ FieldLex 1 12 mo) ∧ (d = [] ∨ FieldLex 1 31 d) ∧
      (mo = [] → d = []) ∧ (tm = [] ∨ TimeLex tm) ∧ (d = [] → tm = []) ∧ TzLex tz := by
  rw [afterYear_eq] at h
  rcases optGroup_some _ _ _ _ s x.1 x.2 h with ⟨f, r, hs, hl, hn⟩ | ⟨tz, hz⟩
  · obtain ⟨d, tm, tz, hr, hd, htm, hdt, htz⟩ := afterMonth_some r _ hn
    exact ⟨f, d, tm, tz, by rw [hs, hr], Or.inr hl, hd, fun h0 => absurd h0 (fieldLex_ne_nil hl), htm, hdt, htz⟩
  · exact ⟨[], [], [], s, rfl, Or.inl rfl, Or.inl rfl, fun _ => rfl, Or.inl rfl, fun _ => rfl, tzEnd_some s tz hz⟩

theorem year4_digits (n : Nat) : ∀ c ∈ year4 n, isDigit c = true :=
  digits_append (digits_zeros _) (natStr_digits n)

theorem digitsVal_year4 (n : Nat) : digitsVal (year4 n) = n := by
  rw [year4, digitsVal_zeros_append, digitsVal_natStr]

/-- below 1000 the year is padded to four digits; from 1000 on it is `str(n)`, four digits or more, no leading zero -/
theorem yearShape_year4 (n : Nat) : yearShape (year4 n) = true := by
  unfold year4
  rcases Nat.lt_or_ge n 1000 with hlt | hge
  · have hl := natStr_length_le n 3 (by decide) hlt
    rw [show 4 - (natStr n).length = (3 - (natStr n).length) + 1 from Nat.succ_sub hl, List.replicate_succ,
      List.cons_append, yearShape]
    rw [if_pos rfl, List.length_cons, List.length_append, List.length_replicate, Nat.sub_add_cancel hl]
    rfl
  · have hl : 3 < (natStr n).length :=
      (Nat.pow_lt_pow_iff_right (by decide)).mp (Nat.lt_of_le_of_lt hge (lt_pow_length_natStr n))
    obtain ⟨c, r, hcr, hc⟩ := natStr_head n (Nat.lt_of_lt_of_le (by decide) hge)
    rw [Nat.sub_eq_zero_of_le hl, List.replicate_zero, List.nil_append]
    rw [hcr] at hl ⊢
    rw [yearShape, if_neg hc]
    exact decide_eq_true hl

/-- the information `parse_date_time (str info)` gives back: fields in range, no day without month, no time without day -/
def DateInfo.WF (i : DateInfo) : Prop :=
  (∀ v, i.month = some v → 1 ≤ v ∧ v ≤ 12) ∧ (i.month = none → i.day = none) ∧
  (∀ v, i.day = some v → 1 ≤ v ∧ v ≤ 31) ∧ (i.day = none → i.time = none ∧ i.eod = false) ∧
  TimeWF i.time i.eod ∧ TzWF i.tz

theorem visible_dayStr (d : Option Nat) : Visible (dayStr d) := by
  cases d with
  | none => exact fun _ hc => nomatch hc
  | some v => exact visible_cons (by decide) (visible_pad2 v)

theorem visible_tzStr (tz : Option Int) : Visible (tzStr tz) := by
  unfold tzStr
  split
  · exact fun _ hc => nomatch hc
  · split
    · decide
    · refine visible_append (visible_append (visible_append ?_ (visible_pad2 _)) (by decide)) (visible_pad2 _)
      split <;> decide

theorem visible_timeStr (tm : Option (Nat × Nat × Nat × Str)) (eod : Bool) (hw : TimeWF tm eod) :
    Visible (timeStr tm eod) := by
  unfold timeStr
  split
  · decide
  · split
    · rename_i hh mm ss fr
      obtain ⟨_, _, _, hd, hr⟩ := hw.2 hh mm ss fr rfl
      refine visible_append (visible_append (visible_append (visible_append (visible_append (by decide)
        (visible_pad2 _)) (by decide)) (visible_pad2 _)) (by decide)) (visible_append (visible_pad2 _) ?_)
      rw [hr]
      split
      · exact fun _ hc => nomatch hc
      · exact visible_cons (by decide) (visible_digits hd)
    · exact fun _ hc => nomatch hc

/-- parse result of `sign ++ year digits ++ rest`; the sign is `-` iff `p` (a `Prop`, as `dateTimeStr` writes `if year < 0`) -/
theorem parseDateTime_parts (p : Prop) [Decidable p] (ys rest : Str) (x) (hy : ∀ c ∈ ys, isDigit c = true)
    (hshape : yearShape ys = true) (hrest : ∀ c, rest.head? = some c → isDigit c = false) (hvis : Visible rest)
    (hafter : afterYear rest = some x) :
    parseDateTime ((if p then [45] else []) ++ (ys ++ rest)) =
      .ok ⟨if p then - (digitsVal ys : Int) else (digitsVal ys : Int), x.1, x.2.1, x.2.2.1, x.2.2.2.1, x.2.2.2.2⟩ := by
  have hsp := span_append ys rest hy hrest
  have hv : Visible ((if p then [45] else []) ++ (ys ++ rest)) :=
    visible_append (by split <;> decide) (visible_append (visible_digits hy) hvis)
  unfold parseDateTime
  rw [dropNewline_id _ hv]
  by_cases hp : p
  · rw [if_pos hp, if_pos hp, List.singleton_append]
    simp only [beq_self_eq_true, if_true, List.drop_succ_cons, List.drop_zero]
    rw [hsp.1, hsp.2, hshape, if_pos rfl, hafter]
  · rw [if_neg hp, if_neg hp, List.nil_append]
    cases ys with
    | nil => cases hshape
    | cons c0 y' =>
      have hc45 : (c0 == 45) = false := beq_eq_false_iff_ne.mpr (ne_of_isDigit (hy c0 List.mem_cons_self) (by decide))
      rw [List.cons_append] at hsp ⊢
      simp only [hc45, Bool.false_eq_true, if_false]
      rw [hsp.1, hsp.2, hshape, if_pos rfl, hafter]

theorem parseDateTime_dateTimeStr (i : DateInfo) (hw : i.WF) : parseDateTime (dateTimeStr i) = .ok i := by
  obtain ⟨hm, hnm, hd, hnd, htm, htz⟩ := hw
  have hrest : ∀ c, (dayStr i.month ++ (dayStr i.day ++ (timeStr i.time i.eod ++ tzStr i.tz))).head? = some c →
      isDigit c = false := by
    cases hmo : i.month with
    | some v => intro c hc; cases hc; rfl
    | none =>
      rw [hnm hmo, (hnd (hnm hmo)).1, (hnd (hnm hmo)).2]
      exact tzStr_head_not_digit i.tz
  have := parseDateTime_parts (i.year < 0) (year4 i.year.natAbs) _ _ (year4_digits _) (yearShape_year4 _) hrest
    (visible_append (visible_dayStr _) (visible_append (visible_dayStr _)
      (visible_append (visible_timeStr _ _ htm) (visible_tzStr _))))
    (afterYear_render i.month i.day i.time i.eod i.tz hm hnm hd hnd htm htz)
  rw [dateTimeStr, this, digitsVal_year4]
  have hy : (if i.year < 0 then - (i.year.natAbs : Int) else (i.year.natAbs : Int)) = i.year := by
    split
    · rename_i hneg; rw [Int.ofNat_natAbs_of_nonpos (Int.le_of_lt hneg), Int.neg_neg]
    · rename_i hpos; exact Int.natAbs_of_nonneg (Int.not_lt.mp hpos)
  rw [hy]

/-- lexical space of xsd:dateTime / date / gYearMonth / gYear as accepted by the pattern of `isoduration` -/
def DateTimeLex (t : Str) : Prop :=
  ∃ sgn ys mo d tm tz, t = sgn ++ (ys ++ (mo ++ (d ++ (tm ++ tz)))) ∧ (sgn = [] ∨ sgn = [45]) ∧
    (∀ c ∈ ys, isDigit c = true) ∧ yearShape ys = true ∧
    (mo = [] ∨ FieldLex 1 12 mo) ∧ (d = [] ∨ FieldLex 1 31 d) ∧ (mo = [] → d = []) ∧
    (tm = [] ∨ TimeLex tm) ∧ (d = [] → tm = []) ∧ TzLex tz

theorem dateTimeLex_of (sgn r : Str) (hsg : sgn = [] ∨ sgn = [45]) (hshape : yearShape (r.takeWhile isDigit) = true) (x)
    (ha : afterYear (r.dropWhile isDigit) = some x) : DateTimeLex (sgn ++ r) := by
  obtain ⟨mo, dd, tms, tzs, hr, hmo, hd, hmd, htm, hdt, htz⟩ := afterYear_some _ _ ha
  exact ⟨sgn, r.takeWhile isDigit, mo, dd, tms, tzs, by rw [← hr, List.takeWhile_append_dropWhile], hsg,
    mem_takeWhile r, hshape, hmo, hd, hmd, htm, hdt, htz⟩

theorem parseDateTime_cases (s : Str) :
    parseDateTime s = .error .value ∨ ∃ i, parseDateTime s = .ok i ∧ DateTimeLex (dropNewline s) := by
  unfold parseDateTime
  dsimp only
  generalize dropNewline s = t
  cases t with
  | nil => exact Or.inl rfl
  | cons c t' =>
    dsimp only
    by_cases hc : c = 45
    · subst hc
      simp only [beq_self_eq_true, if_true, List.drop_succ_cons, List.drop_zero]
      split
      · rename_i hshape
        split
        · rename_i ha
          exact Or.inr ⟨_, rfl, dateTimeLex_of [45] t' (Or.inr rfl) hshape _ ha⟩
        · exact Or.inl rfl
      · exact Or.inl rfl
    · simp only [beq_eq_false_iff_ne.mpr hc, Bool.false_eq_true, if_false]
      split
      · rename_i hshape
        split
        · rename_i ha
          exact Or.inr ⟨_, rfl, dateTimeLex_of [] (c :: t') (Or.inl rfl) hshape _ ha⟩
        · exact Or.inl rfl
      · exact Or.inl rfl

theorem parseDateTime_reject (s : Str) (h : ¬ DateTimeLex (dropNewline s)) : parseDateTime s = .error .value :=
  (parseDateTime_cases s).resolve_right fun ⟨_, _, hl⟩ => h hl

end Sdc.Scalars
