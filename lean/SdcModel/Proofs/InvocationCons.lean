import SdcModel.Invocation
/-!
Consumer side of C09 (`OperationsManager`): what the future of one call is completed with, for an arbitrary event list
around its response. Events that are not about the call leave it alone (`foreign_step`, `closed_run`); before the response
the own parts are kept in the bounded buffer (`buffered_run`); after a registering response they are collected up to the
first final one (`registered_run`); `response_run` is the response followed by any events, with `callResult` as the
result; `callResult_legal` evaluates it for a legal sequence of own parts.
-/
namespace Sdc.Invocation

/-- all `set_result` calls on future `fut` -/
def doneOf (fut : Nat) (c : Cons) : List Result := c.done.filter (fun r => r.fut = fut)

def NoPendingFut (c : Cons) (fut : Nat) : Prop := ∀ k d, c.trans k = some d → d.fut ≠ fut

/-- a part of another transaction (used with `dropWhile`: the window starts at the first own part) -/
def other (tx : Nat) (p : Part) : Bool := p.tx != tx

def ownIn (tx : Nat) (l : List Part) : List Part := l.filter (fun p => p.tx = tx)

theorem setT_same (f : Nat → Option Pending) (k : Nat) (v : Option Pending) : setT f k v k = v := if_pos rfl
theorem setT_other (f : Nat → Option Pending) (k j : Nat) (v : Option Pending) (h : j ≠ k) : setT f k v j = f j :=
  if_neg h

-- `c'` stands for any record update of `c` that appends `r` to `done` (it may change `trans` as well): `hc` is then `rfl`
theorem doneOf_append_other (fut : Nat) (c : Cons) (r : Result) (h : r.fut ≠ fut) (c' : Cons)
    (hc : c'.done = c.done ++ [r]) : doneOf fut c' = doneOf fut c := by
  simp [doneOf, hc, List.filter_append, h]

theorem doneOf_append_self (fut : Nat) (c : Cons) (r : Result) (h : r.fut = fut) (c' : Cons)
    (hc : c'.done = c.done ++ [r]) : doneOf fut c' = doneOf fut c ++ [r] := by
  simp [doneOf, hc, List.filter_append, h]

theorem foreign_response {fut tx f t : Nat} {st : St} (h : (CEv.response f t st).foreign fut tx = true) :
    f ≠ fut ∧ t ≠ tx := by
  simpa [CEv.foreign] using h

theorem foreign_drop {fut tx f : Nat} (h : (CEv.drop f).foreign fut tx = true) : f ≠ fut := by
  simpa [CEv.foreign] using h

section
variable {c : Cons} {fut tx : Nat} {st : St} {p : Part} {d : Pending}

theorem cstep_response_final {f : Part} (h : (ownIn tx c.recent).find? (fun p => p.st.isFinal) = some f) :
    cstep c (.response fut tx st) = { c with done := c.done ++ [⟨fut, f.st, true, ownIn tx c.recent⟩] } := by
  simp only [ownIn] at h
  simp only [cstep, h, ownIn]

theorem cstep_response_immediate (h : (ownIn tx c.recent).find? (fun p => p.st.isFinal) = none)
    (hi : st.immediate = true) :
    cstep c (.response fut tx st) = { c with done := c.done ++ [⟨fut, st, false, ownIn tx c.recent⟩] } := by
  simp only [ownIn] at h
  simp only [cstep, h, hi, if_true, ownIn]

theorem cstep_response_register (h : (ownIn tx c.recent).find? (fun p => p.st.isFinal) = none)
    (hi : st.immediate = false) :
    cstep c (.response fut tx st) = { c with trans := setT c.trans tx (some ⟨fut, ownIn tx c.recent⟩) } := by
  simp only [ownIn] at h
  simp only [cstep, h, hi, Bool.false_eq_true, if_false, ownIn]

theorem cstep_part_unknown (h : c.trans p.tx = none) :
    cstep c (.part p) = { c with recent := push c.maxlen c.recent p } := by
  simp only [cstep, h]

theorem cstep_part_collect (h : c.trans p.tx = some d) (hfin : p.st.isFinal = false) :
    cstep c (.part p) = { c with trans := setT c.trans p.tx (some ⟨d.fut, d.parts ++ [p]⟩) } := by
  simp only [cstep, h, hfin, Bool.false_eq_true, if_false]

theorem cstep_part_final (h : c.trans p.tx = some d) (hfin : p.st.isFinal = true) :
    cstep c (.part p) =
      if d.fut ∈ c.dropped then { c with trans := setT c.trans p.tx none }
      else { c with trans := setT c.trans p.tx none, done := c.done ++ [⟨d.fut, p.st, true, d.parts ++ [p]⟩] } := by
  simp only [cstep, h, hfin, if_true]

end

theorem crun_append (c : Cons) (a b : List CEv) : crun c (a ++ b) = crun (crun c a) b := by
  induction a generalizing c with
  | nil => rfl
  | cons e es ih => exact ih (cstep c e)

theorem ownParts_append (tx : Nat) (a b : List CEv) : ownParts tx (a ++ b) = ownParts tx a ++ ownParts tx b := by
  induction a with
  | nil => rfl
  | cons e es ih =>
    cases e with
    | part p => by_cases h : p.tx = tx <;> simp [ownParts, h, ih]
    | response f t st => simp [ownParts, ih]
    | drop f => simp [ownParts, ih]

theorem ownIn_append (tx : Nat) (a b : List Part) : ownIn tx (a ++ b) = ownIn tx a ++ ownIn tx b :=
  List.filter_append ..

theorem ownParts_part (tx : Nat) (p : Part) : ownParts tx [.part p] = ownIn tx [p] := by
  by_cases h : p.tx = tx <;> simp [ownParts, ownIn, h]

/-- among the registered transactions only `tx` may reference the future -/
def Alone (c : Cons) (fut tx : Nat) : Prop := ∀ k d, c.trans k = some d → d.fut = fut → k = tx

theorem alone_setT {c : Cons} {fut tx : Nat} (ha : Alone c fut tx) (k : Nat) (v : Option Pending)
    (hv : ∀ d, v = some d → d.fut = fut → k = tx) : ∀ j d, setT c.trans k v j = some d → d.fut = fut → j = tx := by
  intro j d hj hd
  by_cases hjk : j = k
  · subst hjk; rw [setT_same] at hj; exact hv d hj hd
  · rw [setT_other _ _ _ _ hjk] at hj; exact ha j d hj hd

/-- a part of `tx` itself counts as foreign only while `tx` is not registered (`hown`) -/
theorem foreign_step (c : Cons) (fut tx : Nat) (e : CEv) (ha : Alone c fut tx) (hf : e.foreign fut tx = true)
    (hown : ∀ p, e = .part p → p.tx = tx → c.trans tx = none) :
    Alone (cstep c e) fut tx ∧ (cstep c e).trans tx = c.trans tx ∧ doneOf fut (cstep c e) = doneOf fut c ∧
      (fut ∉ c.dropped → fut ∉ (cstep c e).dropped) ∧ (cstep c e).maxlen = c.maxlen ∧
      ((∀ p, e = .part p → c.trans p.tx ≠ none) → (cstep c e).recent = c.recent) := by
  cases e with
  | response f t st =>
    obtain ⟨hf1, hf2⟩ := foreign_response hf
    simp only [cstep]
    split
    · exact ⟨ha, rfl, doneOf_append_other fut c _ hf1 _ rfl, id, rfl, fun _ => rfl⟩
    · split
      · exact ⟨ha, rfl, doneOf_append_other fut c _ hf1 _ rfl, id, rfl, fun _ => rfl⟩
      · exact ⟨alone_setT ha t _ (fun d h hd => by cases h; exact absurd hd hf1), setT_other _ _ _ _ (Ne.symm hf2), rfl, id,
          rfl, fun _ => rfl⟩
  | drop f =>
    exact ⟨ha, rfl, rfl, fun h hm => (List.mem_cons.mp hm).elim (fun e => foreign_drop hf e.symm) h, rfl, fun _ => rfl⟩
  | part p =>
    cases hp : c.trans p.tx with
    | none => rw [cstep_part_unknown hp]; exact ⟨ha, rfl, rfl, id, rfl, fun h => absurd hp (h p rfl)⟩
    | some d =>
      have hne : tx ≠ p.tx := fun h => by rw [← h, hown p rfl h.symm] at hp; cases hp
      have hd : d.fut ≠ fut := fun h => hne (ha p.tx d hp h).symm
      cases hfin : p.st.isFinal with
      | false =>
        rw [cstep_part_collect hp hfin]
        exact ⟨alone_setT ha _ _ (fun d' h hd' => by cases h; exact absurd hd' hd), setT_other _ _ _ _ hne, rfl, id, rfl,
          fun _ => rfl⟩
      | true =>
        rw [cstep_part_final hp hfin]
        split
        · exact ⟨alone_setT ha _ _ nofun, setT_other _ _ _ _ hne, rfl, id, rfl, fun _ => rfl⟩
        · exact ⟨alone_setT ha _ _ nofun, setT_other _ _ _ _ hne, doneOf_append_other fut c _ hd _ rfl, id, rfl,
            fun _ => rfl⟩

theorem closed_run (evs : List CEv) (c : Cons) (fut tx : Nat) (ha : Alone c fut tx) (ht : c.trans tx = none)
    (hf : ∀ e ∈ evs, e.foreign fut tx = true) :
    Alone (crun c evs) fut tx ∧ (crun c evs).trans tx = none ∧ doneOf fut (crun c evs) = doneOf fut c ∧
      (fut ∉ c.dropped → fut ∉ (crun c evs).dropped) := by
  induction evs generalizing c with
  | nil => exact ⟨ha, ht, rfl, id⟩
  | cons e es ih =>
    obtain ⟨h1, h2, h3, h4, _⟩ := foreign_step c fut tx e ha (hf e List.mem_cons_self) (fun _ _ _ => ht)
    obtain ⟨i1, i2, i3, i4⟩ := ih (cstep c e) h1 (h2.trans ht) (fun e' he' => hf e' (List.mem_cons_of_mem _ he'))
    exact ⟨i1, i2, i3.trans h3, i4 ∘ h4⟩

/-! ### the bounded buffer keeps the own parts as long as the window since the first own part fits -/

theorem ownIn_eq_nil_iff (tx : Nat) (l : List Part) : ownIn tx l = [] ↔ ∀ p ∈ l, other tx p = true := by
  rw [ownIn, List.filter_eq_nil_iff]
  exact forall₂_congr fun p _ => by rw [other, bne_iff_ne, decide_eq_true_iff]

theorem ownIn_dropWhile (tx : Nat) (l : List Part) : ownIn tx (l.dropWhile (other tx)) = ownIn tx l := by
  conv => rhs; rw [← List.takeWhile_append_dropWhile (p := other tx) (l := l)]
  rw [ownIn_append, (ownIn_eq_nil_iff tx _).mpr (List.all_eq_true.mp List.all_takeWhile), List.nil_append]

theorem dropWhile_drop_append {α : Type} (q : α → Bool) (l r : List α) (n : Nat) (hn : n ≤ (l.takeWhile q).length) :
    (l.drop n ++ r).dropWhile q = (l ++ r).dropWhile q := by
  induction l generalizing n with
  | nil => rw [List.drop_nil]
  | cons a t ih =>
    cases n with
    | zero => rfl
    | succ n =>
      cases ha : q a with
      | false => rw [List.takeWhile_cons_of_neg (by simp [ha])] at hn; cases hn
      | true =>
        rw [List.takeWhile_cons_of_pos ha] at hn
        rw [List.drop_succ_cons, List.cons_append, List.dropWhile_cons_of_pos ha]
        exact ih n (Nat.le_of_succ_le_succ hn)

theorem length_dropWhile_le_of_sublist {α : Type} (q : α → Bool) {l₁ l₂ : List α} (h : l₁.Sublist l₂) :
    (l₁.dropWhile q).length ≤ (l₂.dropWhile q).length := by
  induction h with
  | slnil => exact Nat.le_refl _
  | @cons l₁ l₂ a h ih =>
    cases ha : q a with
    | true => rw [List.dropWhile_cons_of_pos ha]; exact ih
    | false =>
      rw [List.dropWhile_cons_of_neg (by simp [ha])]
      exact Nat.le_trans (List.dropWhile_sublist q).length_le (Nat.le_succ_of_le h.length_le)
  | @cons_cons l₁ l₂ a h ih =>
    cases ha : q a with
    | true => rw [List.dropWhile_cons_of_pos ha, List.dropWhile_cons_of_pos ha]; exact ih
    | false =>
      rw [List.dropWhile_cons_of_neg (by simp [ha]), List.dropWhile_cons_of_neg (by simp [ha])]
      exact Nat.succ_le_succ h.length_le

/-- `deque.append` while the window (the first own part and everything after it, here with `x` and the parts `rest` still
    to come) fits: only parts in front of the window fall out -/
theorem push_window (maxlen tx : Nat) (r : List Part) (x : Part) (rest : List Part)
    (hw : ((r ++ x :: rest).dropWhile (other tx)).length ≤ maxlen) :
    ownIn tx (push maxlen r x) = ownIn tx (r ++ [x]) ∧
      (push maxlen r x ++ rest).dropWhile (other tx) = (r ++ x :: rest).dropWhile (other tx) := by
  have hassoc : r ++ [x] ++ rest = r ++ x :: rest := List.append_assoc ..
  have hlen : ((r ++ [x]).dropWhile (other tx)).length ≤ maxlen :=
    Nat.le_trans (length_dropWhile_le_of_sublist _ (List.sublist_append_left _ rest)) (hassoc ▸ hw)
  have hsplit := congrArg List.length (List.takeWhile_append_dropWhile (p := other tx) (l := r ++ [x]))
  rw [List.length_append] at hsplit
  have hn : (r ++ [x]).length - maxlen ≤ ((r ++ [x]).takeWhile (other tx)).length := by omega
  constructor
  · have := dropWhile_drop_append (other tx) (r ++ [x]) [] _ hn
    rw [List.append_nil, List.append_nil] at this
    rw [← ownIn_dropWhile, push, this, ownIn_dropWhile]
  · rw [push, dropWhile_drop_append _ _ _ _ hn, hassoc]

theorem buffered_run (evs : List CEv) (c : Cons) (fut tx : Nat) (ha : Alone c fut tx) (ht : c.trans tx = none)
    (hf : ∀ e ∈ evs, e.foreign fut tx = true)
    (hw : ((c.recent ++ allParts evs).dropWhile (other tx)).length ≤ c.maxlen) :
    ownIn tx (crun c evs).recent = ownIn tx c.recent ++ ownParts tx evs := by
  induction evs generalizing c with
  | nil => exact (List.append_nil _).symm
  | cons e es ih =>
    obtain ⟨h1, h2, _, _, hmax, hrec⟩ := foreign_step c fut tx e ha (hf e List.mem_cons_self) (fun _ _ _ => ht)
    have key : ownIn tx (cstep c e).recent = ownIn tx c.recent ++ ownParts tx [e] ∧
        (((cstep c e).recent ++ allParts es).dropWhile (other tx)).length ≤ (cstep c e).maxlen := by
      rw [hmax]
      cases e with
      | response f t st => rw [hrec nofun]; exact ⟨(List.append_nil _).symm, hw⟩
      | drop f => rw [hrec nofun]; exact ⟨(List.append_nil _).symm, hw⟩
      | part p =>
        cases hp : c.trans p.tx with
        | none =>
          obtain ⟨k1, k2⟩ := push_window c.maxlen tx c.recent p (allParts es) hw
          rw [cstep_part_unknown hp, ownParts_part, ← ownIn_append]
          exact ⟨k1, k2.symm ▸ hw⟩
        | some d =>
          have hne : p.tx ≠ tx := fun h => by rw [h, ht] at hp; cases hp
          rw [hrec (fun q hq => by cases hq; rw [hp]; nofun), ownParts_part,
            (ownIn_eq_nil_iff tx [p]).mpr (by simpa [other] using hne)]
          refine ⟨(List.append_nil _).symm, Nat.le_trans ?_ hw⟩
          exact length_dropWhile_le_of_sublist _ (List.Sublist.append_left (List.sublist_cons_self p _) _)
    rw [show crun c (e :: es) = crun (cstep c e) es from rfl,
      ih (cstep c e) h1 (h2.trans ht) (fun e' he' => hf e' (List.mem_cons_of_mem _ he')) key.2, key.1,
      List.append_assoc, ← ownParts_append]
    rfl

/-! ### registered phase: the transaction is registered for the future with the parts collected so far -/

structure Registered (c : Cons) (fut tx : Nat) (acc : List Part) : Prop where
  reg : c.trans tx = some ⟨fut, acc⟩
  uniq : Alone c fut tx
  alive : fut ∉ c.dropped

theorem closed_after (evs : List CEv) (c c' : Cons) (fut tx : Nat) (r : Result) (hr : r.fut = fut)
    (hc : c'.done = c.done ++ [r]) (ha : Alone c' fut tx) (ht : c'.trans tx = none)
    (hf : ∀ e ∈ evs, e.foreign fut tx = true) : doneOf fut (crun c' evs) = doneOf fut c ++ [r] := by
  rw [(closed_run evs c' fut tx ha ht hf).2.2.1]
  exact doneOf_append_self fut c r hr c' hc

/-- what a transaction registered with the parts `acc` completes its future with when the own parts `ps` arrive -/
def collected (fut : Nat) : List Part → List Part → List Result
  | _, [] => []
  | acc, p :: ps => if p.st.isFinal then [⟨fut, p.st, true, acc ++ [p]⟩] else collected fut (acc ++ [p]) ps

theorem registered_run (evs : List CEv) (c : Cons) (fut tx : Nat) (acc : List Part) (hr : Registered c fut tx acc)
    (hf : ∀ e ∈ evs, e.foreign fut tx = true) :
    doneOf fut (crun c evs) = doneOf fut c ++ collected fut acc (ownParts tx evs) := by
  induction evs generalizing c acc with
  | nil => exact (List.append_nil _).symm
  | cons e es ih =>
    have hf' : ∀ e' ∈ es, e'.foreign fut tx = true := fun e' he' => hf e' (List.mem_cons_of_mem _ he')
    obtain ⟨hreg, huniq, halive⟩ := hr
    by_cases hown : ∃ p, e = .part p ∧ p.tx = tx
    · obtain ⟨p, rfl, rfl⟩ := hown
      have hparts : ownParts p.tx (.part p :: es) = p :: ownParts p.tx es := by simp only [ownParts, if_true]
      rw [hparts, collected, show crun c (.part p :: es) = crun (cstep c (.part p)) es from rfl]
      cases hfin : p.st.isFinal with
      | true =>
        rw [cstep_part_final hreg hfin, if_neg halive, if_pos rfl]
        exact closed_after es c _ fut p.tx _ rfl rfl (alone_setT huniq _ _ nofun) (setT_same ..) hf'
      | false =>
        rw [cstep_part_collect hreg hfin, if_neg Bool.false_ne_true]
        exact ih { c with trans := setT c.trans p.tx (some ⟨fut, acc ++ [p]⟩) } (acc ++ [p])
          ⟨setT_same .., alone_setT huniq _ _ (fun _ _ _ => rfl), halive⟩ hf'
    · -- an event that is not about the observed transaction
      have hown' : ∀ p, e = .part p → p.tx ≠ tx := fun p he hp => hown ⟨p, he, hp⟩
      obtain ⟨h1, h2, h3, h4, _⟩ := foreign_step c fut tx e huniq (hf e List.mem_cons_self)
        (fun p he hp => absurd hp (hown' p he))
      have hparts : ownParts tx (e :: es) = ownParts tx es := by
        cases e with
        | part p => simp only [ownParts, if_neg (hown' p rfl)]
        | response f t st => rfl
        | drop f => rfl
      rw [hparts, show crun c (e :: es) = crun (cstep c e) es from rfl,
        ih (cstep c e) acc ⟨h2.trans hreg, h1, h4 halive⟩ hf', h3]

/-- What the future of a call with response state `rs` is completed with, given the own parts `pre` buffered before the
    response and the own parts `post` that arrive after it:
    * a final part in the buffer supplies the state, and the result carries the buffer;
    * else a `Fail`/`Cnclld`/`CnclldMan` response completes at once, with the response state and the buffer;
    * else the first final part after the response completes, with its state and all own parts up to it, in order;
    * else the future is not completed yet. -/
def callResult (fut : Nat) (rs : St) (pre post : List Part) : List Result :=
  match pre.find? (fun p => p.st.isFinal) with
  | some f => [⟨fut, f.st, true, pre⟩]
  | none => if rs.immediate then [⟨fut, rs, false, pre⟩] else collected fut pre post

theorem response_run (c : Cons) (fut tx : Nat) (rs : St) (post : List CEv) (ha : Alone c fut tx)
    (ht : c.trans tx = none) (halive : fut ∉ c.dropped) (hf : ∀ e ∈ post, e.foreign fut tx = true) :
    doneOf fut (crun (cstep c (.response fut tx rs)) post) =
      doneOf fut c ++ callResult fut rs (ownIn tx c.recent) (ownParts tx post) := by
  unfold callResult
  cases hfind : (ownIn tx c.recent).find? (fun p => p.st.isFinal) with
  | some f => rw [cstep_response_final hfind]; exact closed_after post c _ fut tx _ rfl rfl ha ht hf
  | none =>
    cases hi : rs.immediate with
    | true => rw [cstep_response_immediate hfind hi]; exact closed_after post c _ fut tx _ rfl rfl ha ht hf
    | false =>
      rw [cstep_response_register hfind hi]
      exact registered_run post _ fut tx _ ⟨setT_same .., alone_setT ha _ _ (fun _ _ _ => rfl), halive⟩ hf

/-! ### a legal sequence of own parts: non-final ones, then one final one -/

theorem find_legal (ns : List Part) (f : Part) (hns : ∀ n ∈ ns, n.st.isFinal = false) (hf : f.st.isFinal = true) :
    (ns ++ [f]).find? (fun p => p.st.isFinal) = some f := by
  induction ns with
  | nil => simp [hf]
  | cons a t ih =>
    have ha : a.st.isFinal = false := hns a (by simp)
    simp [ha, ih (fun n hn => hns n (by simp [hn]))]

theorem collected_legal (fut : Nat) (acc ns : List Part) (f : Part) (hns : ∀ n ∈ ns, n.st.isFinal = false)
    (hf : f.st.isFinal = true) : collected fut acc (ns ++ [f]) = [⟨fut, f.st, true, acc ++ ns ++ [f]⟩] := by
  induction ns generalizing acc with
  | nil => rw [List.nil_append, collected, if_pos hf, List.append_nil]
  | cons a t ih =>
    rw [List.cons_append, collected, if_neg (by simp [hns a List.mem_cons_self]),
      ih (acc ++ [a]) (fun n hn => hns n (List.mem_cons_of_mem _ hn)), List.append_assoc acc, List.singleton_append]

theorem callResult_legal (fut : Nat) (rs : St) {pre post ns : List Part} {f : Part} (h : pre ++ post = ns ++ [f])
    (hns : ∀ n ∈ ns, n.st.isFinal = false) (hf : f.st.isFinal = true) :
    callResult fut rs pre post =
      [if rs.immediate = true ∧ pre.find? (fun p => p.st.isFinal) = none then ⟨fut, rs, false, pre⟩
       else ⟨fut, f.st, true, ns ++ [f]⟩] := by
  -- the final part arrives after the response, behind the non-final parts `a`
  have late : ∀ a, ns = pre ++ a → post = a ++ [f] → callResult fut rs pre post =
      [if rs.immediate = true ∧ pre.find? (fun p => p.st.isFinal) = none then ⟨fut, rs, false, pre⟩
       else ⟨fut, f.st, true, ns ++ [f]⟩] := by
    intro a h1 h2
    have hpre : pre.find? (fun p => p.st.isFinal) = none :=
      List.find?_eq_none.mpr (fun n hn => by simp [hns n (h1 ▸ List.mem_append_left _ hn)])
    rw [callResult, hpre, h2, collected_legal fut pre a f (fun n hn => hns n (h1 ▸ List.mem_append_right _ hn)) hf, ← h1]
    cases rs.immediate <;> simp
  rcases List.append_eq_append_iff.mp h with ⟨a, h1, h2⟩ | ⟨b, h1, h2⟩
  · exact late a h1 h2
  · cases b with
    | nil => exact late [] (by rw [h1, List.append_nil, List.append_nil]) h2.symm
    | cons x t =>
      -- the final part arrived before the response: it is the last own part, nothing follows
      obtain ⟨rfl, ht⟩ := List.cons.inj h2
      obtain ⟨rfl, _⟩ := List.append_eq_nil_iff.mp ht.symm
      rw [callResult, h1, find_legal ns f hns hf]
      simp

theorem callResult_of_states (fut : Nat) (rs : St) {pre post : List Part} {ws : List St} {g : St}
    (h : (pre ++ post).map (·.st) = ws ++ [g]) (hws : ∀ s ∈ ws, s.isFinal = false) (hg : g.isFinal = true) :
    ∃ r, callResult fut rs pre post = [r] ∧ (r.st = g ∨ r.st = rs ∧ rs.immediate = true) ∧
      (rs.immediate = false → r.parts = pre ++ post) := by
  obtain ⟨ns, l, hl, hns, hlg⟩ := List.map_eq_append_iff.mp h
  obtain ⟨f, rfl, hf⟩ := List.map_eq_singleton_iff.mp hlg
  refine ⟨_, callResult_legal fut rs hl (fun n hn => hws _ (hns ▸ List.mem_map_of_mem hn)) (hf ▸ hg), ?_, ?_⟩
  · split
    · rename_i hi; exact .inr ⟨rfl, hi.1⟩
    · exact .inl hf
  · intro hi
    rw [if_neg (fun h => by rw [hi] at h; exact Bool.false_ne_true h.1), hl]

end Sdc.Invocation
