import SdcModel.Proofs.MdibDCommit
/-!
# the states follow their descriptor: `_update_corresponding_state` re-establishes the version links of the states of a
descriptor whose version changed (`CInv.updCorr`), `_increment_parent_descriptor_version` (`CInv.incPar`)
-/
set_option linter.unusedSimpArgs false
namespace Sdc.Mdib

def ucStep (d : Descr) (tx : DTx) (cs : CState) : DTx :=
  match dictGet tx.cItems cs.h with
  | some ⟨_, none⟩ => tx
  | some ⟨o, some n⟩ => { tx with cItems := dictSet tx.cItems cs.h ⟨o, some { n with sv := n.sv + 1, dv := d.ver }⟩ }
  | none => { tx with cItems := dictSet tx.cItems cs.h ⟨some cs, some { cs with sv := cs.sv + 1, dv := d.ver }⟩ }

def ucSingle (c : DCommit) (d : Descr) : DCommit :=
  match dictGet c.tx.sItems d.handle with
  | some it => { c with tx := { c.tx with sItems := dictSet c.tx.sItems d.handle { it with new := { it.new with dv := d.ver } } } }
  | none =>
    match findS c.t d.handle with
    | none => c
    | some s => { c with tx := { c.tx with sItems := dictSet c.tx.sItems d.handle ⟨some s, { s with dv := d.ver, sv := s.sv + 1 }⟩ } }

theorem updCorresponding_eq (c : DCommit) (d : Descr) :
    updCorresponding c d =
      if d.kind == .context then { c with tx := (ctxOf c.t d.handle).foldl (ucStep d) c.tx } else ucSingle c d := by
  rfl

theorem updCorresponding_res (c : DCommit) (d : Descr) : (updCorresponding c d).res = c.res := by
  rw [updCorresponding_eq]
  split
  · rfl
  · unfold ucSingle
    split
    · rfl
    · split <;> rfl

variable {t₀ : Tables} {tx₀ : DTx} {del : List Handle} {pend : List (Handle × DItem)} {T : Tables}

theorem CIok.mono {stc stc' : Handle → Handle → Prop} {p : Handle × CItem} (h : CIok tx₀ del pend stc T p)
    (hs : ∀ a, stc a p.1 → stc' a p.1) : CIok tx₀ del pend stc' T p := by
  refine ⟨h.old, h.odh, fun n hn => ?_, h.fresh⟩
  obtain ⟨a, b, c, e, f⟩ := h.new n hn
  refine ⟨a, b, c, e, ?_⟩
  rcases f with ⟨d', hd', e1, e2, e3⟩ | r
  · exact .inl ⟨d', hd', e1, e2, fun hx => e3 (fun h' => hx (hs _ h'))⟩
  · exact .inr r

theorem CRef.mono {stc stc' : Handle → Handle → Prop} {X X' : DTx} {x : CState} (h : CRef stc T X x)
    (hX : x.h ∈ X.cItems.map (·.1) → x.h ∈ X'.cItems.map (·.1)) (hs : ∀ a, stc a x.h → stc' a x.h) : CRef stc' T X' x := by
  obtain ⟨d', hd', e1, e2, e3⟩ := h
  exact ⟨d', hd', e1, e2, fun hk hx => e3 (fun h' => hk (hX h')) (fun h' => hx (hs _ h'))⟩

theorem uc_loop {d : Descr} (hd : d ∈ T.descrs) (hk : d.kind = .context) (hnd : d.handle ∉ del)
    (hcK : (T.ctx.map (·.h)).Nodup) :
    ∀ (L : List CState) (X : DTx) (stc : Handle → Handle → Prop), (∀ x ∈ L, x ∈ T.ctx ∧ x.dh = d.handle) →
      (X.cItems.map (·.1)).Nodup → (∀ p ∈ X.cItems, CIok tx₀ del pend stc T p) → (∀ x ∈ T.ctx, CRef stc T X x) →
      ((L.foldl (ucStep d) X).cItems.map (·.1)).Nodup ∧
      (∀ p ∈ (L.foldl (ucStep d) X).cItems,
        CIok tx₀ del pend (fun a k => stc a k ∧ ¬ (a = d.handle ∧ k ∈ L.map (·.h))) T p) ∧
      (∀ x ∈ T.ctx, CRef (fun a k => stc a k ∧ ¬ (a = d.handle ∧ k ∈ L.map (·.h))) T (L.foldl (ucStep d) X) x) ∧
      (L.foldl (ucStep d) X).sItems = X.sItems ∧ (L.foldl (ucStep d) X).descr = X.descr ∧
      (∀ p ∈ (L.foldl (ucStep d) X).cItems, p.2.old = none → p ∈ X.cItems) ∧
      (∀ p ∈ (L.foldl (ucStep d) X).cItems, p.2.new = none → p ∈ X.cItems) := by
  intro L
  induction L with
  | nil =>
    intro X stc _ hK hci hcr
    exact ⟨hK, fun p hp => (hci p hp).mono (fun _ hs => ⟨hs, fun h => nomatch h.2⟩),
      fun x hx => (hcr x hx).mono id (fun _ hs => ⟨hs, fun h => nomatch h.2⟩), rfl, rfl, fun p hp _ => hp, fun p hp _ => hp⟩
  | cons cs rest ih =>
    intro X stc hL hK hci hcr
    obtain ⟨hcsT, hcsd⟩ := hL cs (by simp)
    have hfc : findC T cs.h = some cs := find_of_mem_nodup (fun c : CState => c.h) hcK hcsT
    simp only [List.foldl_cons]
    have step : ((ucStep d X cs).cItems.map (·.1)).Nodup ∧
        (∀ p ∈ (ucStep d X cs).cItems, CIok tx₀ del pend (fun a k => stc a k ∧ ¬ (a = d.handle ∧ k = cs.h)) T p) ∧
        (∀ x ∈ T.ctx, CRef (fun a k => stc a k ∧ ¬ (a = d.handle ∧ k = cs.h)) T (ucStep d X cs) x) ∧
        (ucStep d X cs).sItems = X.sItems ∧ (ucStep d X cs).descr = X.descr ∧
        (∀ p ∈ (ucStep d X cs).cItems, p.2.old = none → p ∈ X.cItems) ∧
        (∀ p ∈ (ucStep d X cs).cItems, p.2.new = none → p ∈ X.cItems) := by
      have hother : ∀ p ∈ X.cItems, p.1 ≠ cs.h → CIok tx₀ del pend (fun a k => stc a k ∧ ¬ (a = d.handle ∧ k = cs.h)) T p := by
        intro p hp hne; exact (hci p hp).mono (fun _ hs => ⟨hs, fun h => hne h.2⟩)
      have hcr' : ∀ (X' : DTx), (∀ k, k ∈ X.cItems.map (·.1) → k ∈ X'.cItems.map (·.1)) → cs.h ∈ X'.cItems.map (·.1) →
          ∀ x ∈ T.ctx, CRef (fun a k => stc a k ∧ ¬ (a = d.handle ∧ k = cs.h)) T X' x := by
        intro X' hsub hin x hx
        by_cases e : x.h = cs.h
        · obtain ⟨d', hd', e1, e2, _⟩ := hcr x hx
          exact ⟨d', hd', e1, e2, fun hk' => absurd (e ▸ hin) hk'⟩
        · exact (hcr x hx).mono (hsub _) (fun _ hs => ⟨hs, fun h => e h.2⟩)
      have hnew : ∀ (o : Option CState) (n : CState), o = some cs → n.h = cs.h → n.dh = cs.dh → cs.sv < n.sv → n.dv = d.ver →
          CIok tx₀ del pend (fun a k => stc a k ∧ ¬ (a = d.handle ∧ k = cs.h)) T (cs.h, ⟨o, some n⟩) := by
        intro o n ho h1 h2 h3 h4
        subst ho
        refine ⟨hfc.symm, ?_, ?_, nofun⟩
        · intro o ho; cases ho; rw [hcsd]; exact hnd
        · intro n' hn'; cases hn'
          refine ⟨h1, by rw [h2, hcsd]; exact hnd, ?_, ⟨?_, fun hn => by rw [hfc] at hn; cases hn⟩, .inl ⟨d, hd, by rw [h2, hcsd], hk, fun _ => h4.symm⟩⟩
          · intro o ho; cases ho; exact h2.symm
          · intro o ho; rw [hfc] at ho; cases ho; exact h3
      unfold ucStep
      cases hg : dictGet X.cItems cs.h with
      | none =>
        simp only
        have hnk := dictGet_none_iff.1 hg
        refine ⟨dictSet_keys_nodup hK _ _, ?_, ?_, trivial, trivial, ?_, ?_⟩
        rotate_left 2
        · intro p hp ho
          rcases mem_dictSet hp with rfl | ⟨_, hp⟩
          · simp at ho
          · exact hp
        · intro p hp ho
          rcases mem_dictSet hp with rfl | ⟨_, hp⟩
          · simp at ho
          · exact hp
        · intro p hp
          rcases mem_dictSet hp with rfl | ⟨hne, hp⟩
          · exact hnew _ _ rfl rfl rfl (by simp) rfl
          · exact hother p hp hne
        · refine hcr' _ ?_ ?_
          · intro k hk'
            obtain ⟨q, hq, rfl⟩ := List.mem_map.1 hk'
            exact List.mem_map.2 ⟨q, mem_dictSet_of_ne _ hq (fun e => hnk (e ▸ hk')), rfl⟩
          · exact List.mem_map.2 ⟨_, mem_dictSet_self _ _ _, rfl⟩
      | some it =>
        obtain ⟨o, new⟩ := it
        have hm := dictGet_some_mem hg
        have hin : cs.h ∈ X.cItems.map (·.1) := List.mem_map.2 ⟨_, hm, rfl⟩
        have hit := hci _ hm
        cases new with
        | none =>
          simp only
          refine ⟨hK, ?_, hcr' X (fun _ h => h) hin, trivial, trivial, fun p hp _ => hp, fun p hp _ => hp⟩
          intro p hp
          by_cases e : p.1 = cs.h
          · have : p = (cs.h, ⟨o, none⟩) := by
              obtain ⟨k, it'⟩ := p
              simp only at e; subst e
              have := dictGet_of_mem_nodup hK hp
              rw [hg] at this; cases this; rfl
            subst this
            exact ⟨hit.old, hit.odh, fun _ hn => absurd hn (Option.not_mem_none _), hit.fresh⟩
          · exact hother p hp e
        | some n =>
          simp only
          have ho : o = some cs := by have := hit.old; simp only at this; rw [hfc] at this; exact this
          obtain ⟨a, b, c, e, f⟩ := hit.new n rfl
          refine ⟨by rw [dictSet_keys_of_mem hin]; exact hK, ?_, ?_, trivial, trivial, ?_, ?_⟩
          rotate_left 2
          · intro p hp ho'
            rcases mem_dictSet hp with rfl | ⟨_, hp⟩
            · rw [ho] at ho'; simp at ho'
            · exact hp
          · intro p hp ho'
            rcases mem_dictSet hp with rfl | ⟨_, hp⟩
            · simp at ho'
            · exact hp
          · intro p hp
            rcases mem_dictSet hp with rfl | ⟨hne, hp⟩
            · refine hnew _ _ ho a (c cs (by rw [ho]; rfl)).symm ?_ rfl
              have := e.1 cs hfc
              simp only; omega
            · exact hother p hp hne
          · refine hcr' _ ?_ ?_
            · intro k hk'; rw [dictSet_keys_of_mem hin]; exact hk'
            · rw [dictSet_keys_of_mem hin]; exact hin
    obtain ⟨s1, s2, s3, s4, s5, s6, s7⟩ := step
    obtain ⟨r1, r2, r3, r4, r5, r6, r7⟩ := ih (ucStep d X cs) _ (fun x hx => hL x (by simp [hx])) s1 s2 s3
    have hrel : ∀ a k, (stc a k ∧ ¬ (a = d.handle ∧ k = cs.h)) ∧ ¬ (a = d.handle ∧ k ∈ rest.map (·.h)) →
        stc a k ∧ ¬ (a = d.handle ∧ k ∈ (cs :: rest).map (·.h)) := by
      intro a k hs
      refine ⟨hs.1.1, fun h => ?_⟩
      rcases List.mem_cons.1 h.2 with h' | h'
      · exact hs.1.2 ⟨h.1, h'⟩
      · exact hs.2 ⟨h.1, h'⟩
    exact ⟨r1, fun p hp => (r2 p hp).mono (fun a => hrel a _), fun x hx => (r3 x hx).mono id (fun a => hrel a _), r4.trans s4,
      r5.trans s5, fun p hp ho => s6 p (r6 p hp ho) ho, fun p hp ho => s7 p (r7 p hp ho) ho⟩

variable {st : Handle → Prop}

/-- `_update_corresponding_state(d)`: afterwards the states of `d` are no longer stale -/
theorem CInv.updCorr {T : Tables} {X : DTx} {R : TxResult} {d : Descr} (h : CInv t₀ tx₀ del pend (fun x => st x ∨ x = d.handle) T X)
    (hd : d ∈ T.descrs) (hnd : d.handle ∉ del)
    (hfresh : ∀ p ∈ X.cItems, p.2.old = none → ∀ n ∈ p.2.new, n.dh = d.handle → n.dv = d.ver) :
    CInv t₀ tx₀ del pend st (updCorresponding ⟨T, X, R⟩ d).t (updCorresponding ⟨T, X, R⟩ d).tx ∧
      (updCorresponding ⟨T, X, R⟩ d).tx.descr = X.descr ∧ (updCorresponding ⟨T, X, R⟩ d).res = R := by
  have huniq : ∀ d' ∈ T.descrs, d'.handle = d.handle → d' = d := fun d' hd' e => mem_unique h.dKeys hd' hd e
  have hnopend : ∀ n, (d.handle, (⟨none, some n⟩ : DItem)) ∉ pend := by
    intro n hm; exact h.pendFresh _ hm rfl (List.mem_map_of_mem hd)
  rw [updCorresponding_eq]
  by_cases hk : d.kind = .context
  ·
    simp only [hk, beq_self_eq_true, if_true]
    have hL : ∀ x ∈ ctxOf T d.handle, x ∈ T.ctx ∧ x.dh = d.handle := by
      intro x hx; simpa [ctxOf, List.mem_filter] using hx
    have hLn : ∀ x ∈ T.ctx, x.dh = d.handle → x.h ∈ (ctxOf T d.handle).map (·.h) := by
      intro x hx e; exact List.mem_map_of_mem (by simp [ctxOf, List.mem_filter, hx, e])
    obtain ⟨r1, r2, r3, r4, r5, r6, r7⟩ := uc_loop (tx₀ := tx₀) (pend := pend) hd hk hnd h.cKeys (ctxOf T d.handle) X
      (fun a _ => st a ∨ a = d.handle) hL h.ciKeys h.ci h.cRef
    -- the single states hang on other descriptors: for them nothing was stale on account of `d`
    obtain ⟨rs1, rs2⟩ := h.refsS (L := T.descrs) (pend' := pend) (st' := st)
      (fun x hx hxk => ⟨x, hx, rfl, rfl, fun hn => ⟨fun hs => hs.elim hn (fun e => hxk (by rw [huniq x hx e]; exact hk)), rfl⟩⟩)
      (fun _ _ hn _ => .inl hn)
    refine ⟨⟨h.dKeys, h.sKeys, h.cKeys, h.dOld, h.dSurv, h.dUp, h.dPar, h.pendFresh, h.creDone, by simp only [r4]; exact rs1, ?_,
      by simp only [r4]; exact h.siKeys, by simp only [r4]; exact rs2, r1, ?_, h.seen, by simp only [r4]; exact h.siOld0,
      fun p hp ho => h.ciOld0 p (r6 p hp ho) ho,
      fun h0 p hp hn => h.ciNoDel h0 p (r7 p hp hn) hn⟩, r5, trivial⟩
    · intro x hx
      obtain ⟨d', hd', e1, e2, e3⟩ := r3 x hx
      refine ⟨d', hd', e1, e2, fun a hst => e3 a ?_⟩
      rintro ⟨hs, hn⟩
      rcases hs with hs | hs
      · exact hst hs
      · exact hn ⟨hs, hLn x hx hs⟩
    · intro p hp
      have := r2 p hp
      refine ⟨this.old, this.odh, ?_, this.fresh⟩
      intro n hn
      obtain ⟨a, b, c', e, f⟩ := this.new n hn
      refine ⟨a, b, c', e, ?_⟩
      rcases f with ⟨d', hd', e1, e2, e3⟩ | r
      · refine .inl ⟨d', hd', e1, e2, fun hst => ?_⟩
        by_cases hnd' : n.dh = d.handle
        ·
          have hd'' := huniq d' hd' (e1.trans hnd')
          by_cases hin : p.1 ∈ (ctxOf T d.handle).map (·.h)
          · exact e3 (fun hx => hx.2 ⟨hnd', hin⟩)
          · -- not a live state of `d`: new in this transaction
            have hold : p.2.old = none := by
              cases ho : p.2.old with
              | none => rfl
              | some o =>
                have hf := this.old; rw [ho] at hf
                have ho' := findC_some hf.symm
                exact absurd (ho'.1 ▸ hLn o ho'.2 ((c' o ho).trans hnd')) hin
            rw [hd'']; exact (hfresh p (r6 p hp hold) hold n hn hnd').symm
        · exact e3 (fun hx => hx.1.elim hst hnd')
      · exact .inr r
  ·
    simp only [hk, beq_iff_eq, if_false]
    obtain ⟨hcr, hci⟩ := h.refsC (L := T.descrs) (pend' := pend) (st' := st)
      (fun x hx hxk => ⟨x, hx, rfl, rfl, fun hn => ⟨fun hs => hs.elim hn (fun e => hk (by rw [← huniq x hx e]; exact hxk)), rfl⟩⟩)
      (fun _ _ hn _ => .inl hn)
    have hsi : ∀ p ∈ X.sItems, p.1 ≠ d.handle → SIok del pend st T p := by
      intro p hp hne
      have := h.si p hp
      refine ⟨this.dh, this.old, this.kind, this.nd, this.bump, ?_⟩
      rcases this.ref with ⟨d', hd', e1, e2, e3⟩ | r
      · exact .inl ⟨d', hd', e1, e2, fun hst => e3 (fun hx => hx.elim hst hne)⟩
      · exact .inr r
    -- assigning an item that is good for `d` settles the state of `d`
    have hset : ∀ it : SItem, SIok del pend st T (d.handle, it) → (it.old = none → findS t₀ d.handle = none) →
        CInv t₀ tx₀ del pend st T { X with sItems := dictSet X.sItems d.handle it } := by
      intro it hit h0
      refine ⟨h.dKeys, h.sKeys, h.cKeys, h.dOld, h.dSurv, h.dUp, h.dPar, h.pendFresh, h.creDone, ?_, hcr,
        dictSet_keys_nodup h.siKeys _ _, ?_, h.ciKeys, hci, h.seen, ?_, h.ciOld0, h.ciNoDel⟩
      · intro s hs
        obtain ⟨k, d', hd', e1, e2, e3⟩ := h.sRef s hs
        refine ⟨k, d', hd', e1, e2, fun hk' hst => ?_⟩
        have hne : s.dh ≠ d.handle := fun e => hk' (List.mem_map.2 ⟨_, mem_dictSet_self _ _ _, e.symm⟩)
        refine e3 (fun hx => hk' ?_) (fun hx => hx.elim hst hne)
        obtain ⟨q, hq, e⟩ := List.mem_map.1 hx
        exact List.mem_map.2 ⟨q, mem_dictSet_of_ne _ hq (fun e' => hne (e ▸ e')), e⟩
      · intro p hp
        rcases mem_dictSet hp with rfl | ⟨hne, hp⟩
        · exact hit
        · exact hsi p hp hne
      · intro p hp ho
        rcases mem_dictSet hp with rfl | ⟨_, hp⟩
        · exact h0 ho
        · exact h.siOld0 p hp ho
    unfold ucSingle
    cases hg : dictGet X.sItems d.handle with
    | some it =>
      have hm := dictGet_some_mem hg
      have hit := h.si _ hm
      exact ⟨hset _ ⟨hit.dh, hit.old, hit.kind, hit.nd, hit.bump, .inl ⟨d, hd, rfl, hk, fun _ => rfl⟩⟩ (h.siOld0 _ hm), rfl, rfl⟩
    | none =>
      have hnk := dictGet_none_iff.1 hg
      cases hf : findS T d.handle with
      | none =>
        refine ⟨⟨h.dKeys, h.sKeys, h.cKeys, h.dOld, h.dSurv, h.dUp, h.dPar, h.pendFresh, h.creDone, ?_, hcr, h.siKeys, ?_, h.ciKeys,
          hci, h.seen, h.siOld0, h.ciOld0, h.ciNoDel⟩, rfl, rfl⟩
        · intro s hs
          obtain ⟨k, d', hd', e1, e2, e3⟩ := h.sRef s hs
          refine ⟨k, d', hd', e1, e2, fun hk' hst => e3 hk' (fun hx => hx.elim hst (fun e => ?_))⟩
          have := find_of_mem_nodup (fun s : SState => s.dh) h.sKeys hs
          simp only [e] at this
          rw [show findS T d.handle = _ from this] at hf; cases hf
        · intro p hp
          exact hsi p hp (fun e => hnk (e ▸ List.mem_map_of_mem hp))
      | some s =>
        have hs' := findS_some hf
        refine ⟨hset _ ⟨hs'.1, hf.symm, (h.sRef s hs'.2).1, hnd, ⟨?_, fun hn => by rw [hf] at hn; cases hn⟩,
          .inl ⟨d, hd, rfl, hk, fun _ => rfl⟩⟩ nofun, rfl, rfl⟩
        intro o ho; rw [hf] at ho; cases ho; exact Nat.lt_succ_self _

/-- what `_increment_parent_descriptor_version` does: nothing (no such descriptor, or bumped already in this transaction), or
    the bumped descriptor replaces the old one, is reported as updated and its states follow -/
theorem incParent_cases (c : DCommit) (q : Handle) :
    incParent c q = c ∨ ∃ p, findD c.t q = some p ∧ (∀ x ∈ c.res.descrUpdated, x.handle ≠ q) ∧
      incParent c q = updCorresponding ⟨replaceDescr c.t { p with ver := p.ver + 1 }, c.tx,
        { c.res with descrUpdated := c.res.descrUpdated ++ [{ p with ver := p.ver + 1 }] }⟩ { p with ver := p.ver + 1 } := by
  unfold incParent
  split
  · exact .inl rfl
  · rename_i p hp
    split
    · exact .inl rfl
    · rename_i hany
      exact .inr ⟨p, hp, fun x hx e => hany (List.any_eq_true.2 ⟨x, hx, beq_iff_eq.2 e⟩), rfl⟩

theorem incParent_created (c : DCommit) (q : Handle) : (incParent c q).res.descrCreated = c.res.descrCreated := by
  rcases incParent_cases c q with e | ⟨p, _, _, e⟩
  · rw [e]
  · rw [e, updCorresponding_res]

/-- `_increment_parent_descriptor_version` for a descriptor that survives the transaction -/
theorem CInv.incPar {T : Tables} {X : DTx} {R : TxResult} (h : CInv t₀ tx₀ del pend st T X) {q : Handle} (hq : q ∉ del)
    (hfr : ∀ p ∈ X.cItems, p.2.old = none → ∀ n ∈ p.2.new, n.dh ≠ q) :
    CInv t₀ tx₀ del pend st (incParent ⟨T, X, R⟩ q).t (incParent ⟨T, X, R⟩ q).tx := by
  rcases incParent_cases ⟨T, X, R⟩ q with e | ⟨p, hp, _, e⟩
  · rw [e]; exact h
  · obtain ⟨hph, hpm⟩ := findD_some hp
    have h1 := h.replace (d := p) (d' := { p with ver := p.ver + 1 }) hpm rfl rfl rfl rfl
      (fun d0 hd0 e => (h.seen.dChg p hpm d0 hd0 e).elim (fun e => e ▸ Nat.lt_succ_self _) Nat.lt_succ_of_lt)
      (fun _ => Nat.le_succ _)
    rw [e]
    exact (CInv.updCorr (st := st) (d := { p with ver := p.ver + 1 }) h1 (mem_replaceDescr.2 (.inl ⟨rfl, List.mem_map_of_mem (f := (·.handle)) hpm⟩))
      (by rw [hph]; exact hq) (fun p' hp' ho n hn e => absurd (e.trans hph) (hfr p' hp' ho n hn))).1

/-- handles whose descriptor update is still pending: their states count as stale -/
def pendUpd (pend : List (Handle × DItem)) (x : Handle) : Prop := ∃ o n, (x, (⟨some o, some n⟩ : DItem)) ∈ pend

theorem in_create_or_update (hi : DTxOK t₀ tx₀) {q : Handle} {it : DItem} {m : Descr} (hm : (q, it) ∈ tx₀.descr)
    (e : it.new = some m) : q ∈ toCreateOf tx₀ ∨ q ∈ toUpdateOf tx₀ := by
  have hh := hi.dNew _ hm m e
  obtain ⟨old, new⟩ := it
  simp only at e; subst e
  cases old with
  | none => exact .inl (mem_toCreateOf.2 ⟨_, hm, m, rfl, hh⟩)
  | some o => exact .inr (mem_toUpdateOf.2 ⟨_, hm, o, m, rfl, hh⟩)

theorem created_not_in_t0 (hi : DTxOK t₀ tx₀) {q : Handle} (hq : q ∈ toCreateOf tx₀) : q ∉ t₀.descrs.map (·.handle) := by
  obtain ⟨p, hp, n, e, rfl⟩ := mem_toCreateOf.1 hq
  have := hi.dOld p hp
  rw [e] at this
  have hh := hi.dNew p hp n (by rw [e]; rfl)
  rw [hh]
  exact (find_none_iff (fun d : Descr => d.handle)).1 this.symm

theorem mem_incParent_of_ne {T : Tables} {X : DTx} {R : TxResult} {q : Handle} {x : Descr} (hx : x ∈ T.descrs) (hne : x.handle ≠ q) :
    x ∈ (incParent ⟨T, X, R⟩ q).t.descrs := by
  rcases incParent_cases ⟨T, X, R⟩ q with e | ⟨p, hp, _, e⟩
  · rw [e]; exact hx
  · rw [e, updCorresponding_t]
    exact mem_replaceDescr.2 (.inr ⟨hx, by rw [(findD_some hp).1]; exact hne⟩)

theorem CInv.maybeInc {T : Tables} {X : DTx} {R : TxResult} (h : CInv t₀ tx₀ del pend st T X) (hi : DTxOK t₀ tx₀) {q : Handle} (hq : q ∉ del)
    (h1 : q ∉ toCreateOf tx₀) (h2 : q ∉ toUpdateOf tx₀) :
    CInv t₀ tx₀ del pend st (incParent ⟨T, X, R⟩ q).t (incParent ⟨T, X, R⟩ q).tx := by
  refine h.incPar hq ?_
  intro p hp ho n hn e
  obtain ⟨it, m, hm, e', _⟩ := (h.ci p hp).fresh ho n hn
  rcases in_create_or_update hi hm e' with a | a
  · exact h1 (e ▸ a)
  · exact h2 (e ▸ a)

/-- `_update_corresponding_state` for the descriptor of the item being processed -/
theorem CInv.finish {T : Tables} {X : DTx} {R : TxResult} {k : Handle} {it : DItem} {m d : Descr}
    (h : CInv t₀ tx₀ del pend (fun x => st x ∨ x = k) T X) (hi : DTxOK t₀ tx₀) (hmem : (k, it) ∈ tx₀.descr)
    (hnew : it.new = some m) (hd : d ∈ T.descrs) (hdh : d.handle = k) (hdv : d.ver = m.ver) (hnd : k ∉ del) :
    CInv t₀ tx₀ del pend st (updCorresponding ⟨T, X, R⟩ d).t (updCorresponding ⟨T, X, R⟩ d).tx := by
  refine (CInv.updCorr (st := st) (by rw [hdh]; exact h) hd (by rw [hdh]; exact hnd) ?_).1
  intro p hp ho n hn e
  obtain ⟨it', m', hm', e', ev⟩ := (h.ci p hp).fresh ho n hn
  rw [e, hdh] at hm'
  have : it' = it := by
    have a := dictGet_of_mem_nodup hi.dKeys hm'
    have b := dictGet_of_mem_nodup hi.dKeys hmem
    rw [a] at b; exact Option.some.inj b
  subst this
  rw [hnew] at e'; cases e'
  rw [ev, hdv]

theorem pendUpd_cons {k : Handle} {it : DItem} {x : Handle} (h : pendUpd ((k, it) :: pend) x) :
    pendUpd pend x ∨ (x = k ∧ it.old ≠ none ∧ it.new ≠ none) := by
  obtain ⟨o, m, hm⟩ := h
  rcases List.mem_cons.1 hm with e | hm
  · obtain ⟨e1, e2⟩ := Prod.mk.inj e
    exact .inr ⟨e1, by rw [← e2]; nofun, by rw [← e2]; nofun⟩
  · exact .inl ⟨o, m, hm⟩

end Sdc.Mdib
