import SdcModel.RequestFlow
/-! Lemmas about `SdcModel/RequestFlow.lean` for C13 (and the connection loop for C17): every way through `do_post` and
`do_POST` (`doPost_spec`, `replyFor_spec`, `doPOST_spec`), what an unreadable / a readable request means for the rest of the
connection, the worker of the deferred dispatcher, the answers to a burst of operation requests. Core Lean only. -/
namespace Sdc.RequestFlow
variable {σ : Type}

theorem replyFor_spec (e : PostEnv σ) (x : Exc) :
    (∃ y, doPost.replyFor e x = .error y ∧ (e.read2 = .error y ∨ e.mkReply = .error y ∨ e.serReply = .error y)) ∨
    (∃ b, doPost.replyFor e x = .ok ⟨(statusOf x).1, (statusOf x).2, .reply b⟩ ∧ e.serReply = .ok b) := by
  unfold doPost.replyFor
  cases e.read2 with
  | error y => exact .inl ⟨y, rfl, .inl rfl⟩
  | ok _ =>
    cases e.mkReply with
    | error y => exact .inl ⟨y, rfl, .inr (.inl rfl)⟩
    | ok _ =>
      cases e.serReply with
      | error y => exact .inl ⟨y, rfl, .inr (.inr rfl)⟩
      | ok b => exact .inr ⟨b, rfl, rfl⟩

/-- the three ways through `do_post`: rejected by the reader; dispatched and answered; an `except` handler takes over -/
theorem doPost_spec (e : PostEnv σ) (s : σ) :
    (∃ x, e.read1 = .error x ∧ (doPost e s).2 = s ∧
      ((∃ y, (doPost e s).1 = .error y ∧ (e.mkFaultMsg = .error y ∨ e.serFault = .error y)) ∨
       (∃ b, (doPost e s).1 = .ok ⟨(statusOf x).1, (statusOf x).2, .fault b⟩ ∧ e.serFault = .ok b))) ∨
    (∃ u, e.read1 = .ok u ∧
      ((∃ u' b, (e.dispatch s).1 = .ok u' ∧ e.serResp = .ok b ∧ (doPost e s).1 = .ok ⟨200, .ok, .response b⟩) ∨
       (∃ x, (doPost e s).1 = doPost.replyFor e x))) := by
  unfold doPost
  cases e.read1 with
  | error x =>
    refine .inl ⟨x, rfl, rfl, ?_⟩
    cases e.mkFaultMsg with
    | error y => exact .inl ⟨y, rfl, .inl rfl⟩
    | ok _ =>
      cases e.serFault with
      | error y => exact .inl ⟨y, rfl, .inr rfl⟩
      | ok b => exact .inr ⟨b, rfl, rfl⟩
  | ok u =>
    refine .inr ⟨u, rfl, ?_⟩
    cases e.dispatch s with
    | mk res s' =>
      cases res with
      | error x => exact .inr ⟨x, rfl⟩
      | ok u' =>
        cases e.serResp with
        | error x => exact .inr ⟨x, rfl⟩
        | ok b => exact .inl ⟨u', b, rfl, rfl, rfl⟩

/-- the two ways through `do_POST`: rejected with a plain answer before the component is called; passed to the component -/
theorem doPOST_spec (e : HandlerEnv σ) (s : σ) :
    (∃ st rs, doPOST e s = (.ok (.plain st rs), s) ∧
      ((∃ x, e.readBody = .error x) ∨ e.hasDispatcher = false ∨ ∃ x, e.lookup = .error x)) ∨
    ((∃ u, e.readBody = .ok u) ∧ e.hasDispatcher = true ∧ (∃ u, e.lookup = .ok u) ∧
      ((∃ r, (e.post s).1 = .ok r ∧ (doPOST e s).1 = .ok (.soap r)) ∨
       (∃ x, (e.post s).1 = .error x ∧ (doPOST e s).1 = .ok (.plain 500 .exception)))) := by
  unfold doPOST
  cases e.readBody with
  | error x => exact .inl ⟨_, _, rfl, .inl ⟨x, rfl⟩⟩
  | ok u =>
    cases e.hasDispatcher with
    | false => exact .inl ⟨_, _, rfl, .inr (.inl rfl)⟩
    | true =>
      cases e.lookup with
      | error x => cases x <;> exact .inl ⟨_, _, rfl, .inr (.inr ⟨_, rfl⟩)⟩
      | ok u' =>
        refine .inr ⟨⟨u, rfl⟩, rfl, ⟨u', rfl⟩, ?_⟩
        cases e.post s with
        | mk res s' =>
          cases res with
          | error x => exact .inr ⟨x, rfl, rfl⟩
          | ok r => exact .inl ⟨r, rfl, rfl⟩

theorem doPOST_total (e : HandlerEnv σ) (s : σ) : ∃ o, (doPOST e s).1 = .ok o := by
  rcases doPOST_spec e s with ⟨_, _, h, _⟩ | ⟨_, _, _, ⟨_, _, h⟩ | ⟨_, _, h⟩⟩
  · exact ⟨_, by rw [h]⟩
  · exact ⟨_, h⟩
  · exact ⟨_, h⟩

theorem serveConn_of_readBody_error {e : HandlerEnv σ} {x : Exc} (h : e.readBody = .error x)
    (rest : List (HandlerEnv σ)) (s : σ) : serveConn (e :: rest) s = ([.plain 400 .exception], s) := by
  unfold serveConn doPOST; rw [h]

theorem serveConn_of_readable {e : HandlerEnv σ} {u : Unit} (hb : e.readBody = .ok u) (hd : e.hasDispatcher = true)
    (rest : List (HandlerEnv σ)) (s : σ) :
    ∃ o, (doPOST e s).1 = .ok o ∧
      serveConn (e :: rest) s = (o :: (serveConn rest (doPOST e s).2).1, (serveConn rest (doPOST e s).2).2) := by
  obtain ⟨o, ho⟩ := doPOST_total e s
  refine ⟨o, ho, ?_⟩
  rw [serveConn]
  cases hp : doPOST e s with
  | mk res s' =>
    rw [hp] at ho
    dsimp only at ho ⊢
    rw [ho, hb, hd]
    rfl

theorem dstep_alive (cap : Nat) (s : DState) (op : DOp) : (dstep cap s op).1.alive = s.alive := by
  unfold dstep
  cases op with
  | post it => dsimp only; by_cases hq : s.queue.length < cap <;> simp only [hq, if_true, if_false]
  | work =>
    dsimp only
    by_cases ha : s.alive = true
    · rw [if_pos ha]
      cases s.queue with
      | nil => rfl
      | cons it r => exact ha.symm
    · rw [if_neg ha]

theorem drun_alive (cap : Nat) (s : DState) (ops : List DOp) : (drun cap s ops).alive = s.alive := by
  induction ops generalizing s with
  | nil => rfl
  | cons op ops ih => exact (ih _).trans (dstep_alive cap s op)

theorem opBurst_eq (cap queued n d : Nat) (hd : queued + d = cap) :
    opBurst cap queued n = List.replicate (min n d) .wait ++ List.replicate (n - d) .failed := by
  induction n generalizing queued d with
  | zero => rw [Nat.zero_min, Nat.zero_sub]; rfl
  | succ n ih =>
    unfold opBurst handleOperationRequest
    cases d with
    | zero =>
      rw [if_neg (by omega), ih queued 0 hd, Nat.min_zero, Nat.min_zero, Nat.sub_zero, Nat.sub_zero]
      rfl
    | succ d =>
      rw [if_pos (by omega), ih (queued + 1) d (by omega), Nat.succ_min_succ, Nat.succ_sub_succ]
      rfl

end Sdc.RequestFlow
