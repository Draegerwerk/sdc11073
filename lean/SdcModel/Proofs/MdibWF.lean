import SdcModel.Proofs.MdibTables
/-!
# The invariants of the MDIB tables and the table steps that keep them

`WF`: referential well-formedness. `KOK`: kind discipline.
-/
namespace Sdc.Mdib

/-- "every state refers to an existing descriptor and carries that descriptor's current DescriptorVersion, no descriptor
    has more than one single state, every non-root descriptor has an existing parent" + unique keys of the three tables -/
structure WF (t : Tables) : Prop where
  dKeys : (t.descrs.map (·.handle)).Nodup
  sKeys : (t.states.map (·.dh)).Nodup
  cKeys : (t.ctx.map (·.h)).Nodup
  sRef : ∀ s ∈ t.states, ∃ d ∈ t.descrs, d.handle = s.dh ∧ d.ver = s.dv
  cRef : ∀ c ∈ t.ctx, ∃ d ∈ t.descrs, d.handle = c.dh ∧ d.ver = c.dv
  parent : ∀ d ∈ t.descrs, ∀ p ∈ d.parent, ∃ q ∈ t.descrs, q.handle = p

instance (t : Tables) : Decidable (WF t) :=
  decidable_of_iff
    ((t.descrs.map (·.handle)).Nodup ∧ (t.states.map (·.dh)).Nodup ∧ (t.ctx.map (·.h)).Nodup ∧
     (∀ s ∈ t.states, ∃ d ∈ t.descrs, d.handle = s.dh ∧ d.ver = s.dv) ∧
     (∀ c ∈ t.ctx, ∃ d ∈ t.descrs, d.handle = c.dh ∧ d.ver = c.dv) ∧
     (∀ d ∈ t.descrs, ∀ p ∈ d.parent, ∃ q ∈ t.descrs, q.handle = p))
    ⟨fun ⟨a, b, c, d, e, f⟩ => ⟨a, b, c, d, e, f⟩, fun h => ⟨h.1, h.2, h.3, h.4, h.5, h.6⟩⟩

theorem WF.of_ver {t : Tables} (h : WF t) (v : Nat) : WF { t with ver := v } := ⟨h.1, h.2, h.3, h.4, h.5, h.6⟩

theorem WF.findS_of_mem {t : Tables} (h : WF t) {s : SState} (hs : s ∈ t.states) : findS t s.dh = some s :=
  find_of_mem_nodup (fun x : SState => x.dh) h.sKeys hs
theorem WF.findC_of_mem {t : Tables} (h : WF t) {c : CState} (hc : c ∈ t.ctx) : findC t c.h = some c :=
  find_of_mem_nodup (fun x : CState => x.h) h.cKeys hc
theorem WF.findD_of_mem {t : Tables} (h : WF t) {d : Descr} (hd : d ∈ t.descrs) : findD t d.handle = some d :=
  find_of_mem_nodup (fun x : Descr => x.handle) h.dKeys hd

theorem WF.putState {t : Tables} (hw : WF t) {h : Handle} {n : SState} (hn : n.dh = h)
    (hd : ∃ d ∈ t.descrs, d.handle = h ∧ d.ver = n.dv) : WF (putState t h n) := by
  refine ⟨(putState_descrs t h n).symm ▸ hw.dKeys, putState_sKeys hw.sKeys hn, (putState_ctx t h n).symm ▸ hw.cKeys,
    ?_, ?_, (putState_descrs t h n).symm ▸ hw.parent⟩
  · intro s hs
    rw [putState_descrs]
    rcases mem_putState hs with rfl | ⟨hs, _⟩
    · exact hn ▸ hd
    · exact hw.sRef s hs
  · rw [putState_descrs, putState_ctx]; exact hw.cRef

theorem WF.putCtx {t : Tables} (hw : WF t) {h : Handle} {n : Option CState} (hn : ∀ x ∈ n, x.h = h)
    (hd : ∀ x ∈ n, ∃ d ∈ t.descrs, d.handle = x.dh ∧ d.ver = x.dv) : WF (putCtx t h n) := by
  refine ⟨(putCtx_descrs t h n).symm ▸ hw.dKeys, (putCtx_states t h n).symm ▸ hw.sKeys, putCtx_cKeys hw.cKeys hn,
    ?_, ?_, (putCtx_descrs t h n).symm ▸ hw.parent⟩
  · rw [putCtx_descrs, putCtx_states]; exact hw.sRef
  · intro c hc
    rw [putCtx_descrs]
    rcases mem_putCtx hc with e | ⟨hc, _⟩
    · exact hd c e.symm
    · exact hw.cRef c hc

/-- kind discipline of the tables: single states are not of the context kind and do not hang on context descriptors,
    context states hang on context descriptors (the real API guarantees this by construction of the entities) -/
structure KOK (t : Tables) : Prop where
  kS : ∀ s ∈ t.states, s.kind ≠ .context
  kSD : ∀ s ∈ t.states, ∀ d ∈ t.descrs, d.handle = s.dh → d.kind ≠ .context
  kCD : ∀ c ∈ t.ctx, ∀ d ∈ t.descrs, d.handle = c.dh → d.kind = .context

instance (t : Tables) : Decidable (KOK t) :=
  decidable_of_iff
    ((∀ s ∈ t.states, s.kind ≠ .context) ∧ (∀ s ∈ t.states, ∀ d ∈ t.descrs, d.handle = s.dh → d.kind ≠ .context) ∧
     (∀ c ∈ t.ctx, ∀ d ∈ t.descrs, d.handle = c.dh → d.kind = .context))
    ⟨fun ⟨a, b, c⟩ => ⟨a, b, c⟩, fun h => ⟨h.1, h.2, h.3⟩⟩

theorem KOK.of_ver {t : Tables} (h : KOK t) (v : Nat) : KOK { t with ver := v } := ⟨h.1, h.2, h.3⟩

theorem KOK.putState {t : Tables} (hk : KOK t) {h : Handle} {n : SState} (hn : n.dh = h) (h1 : n.kind ≠ .context)
    (h2 : ∀ d ∈ t.descrs, d.handle = h → d.kind ≠ .context) : KOK (putState t h n) := by
  refine ⟨?_, ?_, ?_⟩
  · intro s hs
    rcases mem_putState hs with rfl | ⟨hs, _⟩
    · exact h1
    · exact hk.kS s hs
  · intro s hs d hd e
    rw [putState_descrs] at hd
    rcases mem_putState hs with rfl | ⟨hs, _⟩
    · exact h2 d hd (e.trans hn)
    · exact hk.kSD s hs d hd e
  · rw [putState_descrs, putState_ctx]; exact hk.kCD

theorem KOK.putCtx {t : Tables} (hk : KOK t) {h : Handle} {n : Option CState}
    (h2 : ∀ x ∈ n, ∀ d ∈ t.descrs, d.handle = x.dh → d.kind = .context) : KOK (putCtx t h n) := by
  refine ⟨?_, ?_, ?_⟩
  · rw [putCtx_states]; exact hk.kS
  · rw [putCtx_states, putCtx_descrs]; exact hk.kSD
  · intro c hc d hd e
    rw [putCtx_descrs] at hd
    rcases mem_putCtx hc with e' | ⟨hc, _⟩
    · exact h2 c e'.symm d hd e
    · exact hk.kCD c hc d hd e

end Sdc.Mdib
