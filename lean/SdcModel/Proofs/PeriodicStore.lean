import SdcModel.PeriodicStore
/-! conservation for the periodic store: sent ++ held ++ stored is always exactly what was put, in order -/
namespace Sdc.PeriodicStore

/-- invariant of the program `good` only (two blocks, `pc < 2`): the collector is before its first block and holds
    nothing, or between the two blocks -/
def Inv (s : St) (h : List Nat) : Prop :=
  s.out ++ s.tmp ++ s.store = h ∧ (s.pc = 0 ∧ s.tmp = [] ∨ s.pc = 1)

theorem inv_init : Inv {} [] := ⟨rfl, .inl ⟨rfl, rfl⟩⟩

theorem puts_append (a b : List Ev) : puts (a ++ b) = puts a ++ puts b := by
  induction a with
  | nil => rfl
  | cons e r ih =>
    cases e with
    | put x => exact congrArg (x :: ·) ih
    | col => exact ih

theorem run_append (p : List (List Op)) (s : St) (a b : List Ev) : run p s (a ++ b) = run p (run p s a) b :=
  List.foldl_append

/-- what a block of `good` does, by evaluation on a state with variable lists: `[take, clear]` moves the store into the copy,
    `[send]` appends the copy to what was sent -/
theorem step_col {st tm ou : List Nat} :
    step good ⟨st, tm, ou, 0⟩ .col = ⟨[], st, ou, 1⟩ ∧ step good ⟨st, tm, ou, 1⟩ .col = ⟨st, [], ou ++ tm, 0⟩ :=
  ⟨rfl, rfl⟩

theorem step_inv (s : St) (h : List Nat) (e : Ev) (hi : Inv s h) : Inv (step good s e) (h ++ puts [e]) := by
  obtain ⟨st, tm, ou, pc⟩ := s
  obtain ⟨h1, h2⟩ := hi
  cases e with
  | put x => exact ⟨by rw [← h1]; exact (List.append_assoc _ _ _).symm, h2⟩
  | col =>
    rw [show h ++ puts [.col] = h from List.append_nil h]
    obtain ⟨rfl, rfl⟩ | rfl := h2
    · rw [step_col.1]
      exact ⟨by rw [← h1, List.append_nil, List.append_nil], .inr rfl⟩
    · rw [step_col.2]
      exact ⟨by rw [← h1, List.append_nil], .inl ⟨rfl, rfl⟩⟩

theorem run_inv (evs : List Ev) (s : St) (h : List Nat) (hi : Inv s h) : Inv (run good s evs) (h ++ puts evs) := by
  induction evs generalizing s h with
  | nil => exact (List.append_nil h).symm ▸ hi
  | cons e r ih =>
    have := ih (step good s e) (h ++ puts [e]) (step_inv s h e hi)
    rw [List.append_assoc, ← puts_append] at this
    exact this

theorem flush (s : St) (h : List Nat) (hi : Inv s h) : (run good s [.col, .col, .col]).out = h := by
  obtain ⟨st, tm, ou, pc⟩ := s
  obtain ⟨h1, ⟨rfl, rfl⟩ | rfl⟩ := hi
  · rw [← h1, List.append_nil]
    rfl
  · exact h1

end Sdc.PeriodicStore
