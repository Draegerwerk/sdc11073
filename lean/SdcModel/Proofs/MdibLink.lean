import SdcModel.Proofs.MdibHist
import SdcModel.Proofs.Reports
import SdcModel.Consumer
/-!
# provider tables / TransactionResult → what the consumer model sees (`Core`, flat `Report`s), and what has to be known about a
committed transaction (`PFacts`) for its reports to satisfy the consumer contract

Vocabulary of the statements in `Properties/C01Link.lean`: `absCore`, `DPart.flat`, `Rep.flat`, `toReports`; of `Proofs/MdibLink*.lean`:
`resParts`, `PFacts`. `descrRep`, `ctxRep`, `Carries` serve the proofs only.
-/
namespace Sdc.Mdib
open Sdc.Consumer

/-- the provider content as the consumer contract sees it -/
def absCore (t : Mdib.Tables) (seq : Nat) (inst : Option Nat) : Core :=
  ⟨⟨t.ver, seq, inst⟩, { descrs := t.descrs, states := t.states, cstates := t.ctx }⟩

def DPart.flat (p : DPart) : DescrPart := ⟨p.mod, p.descr, p.states, p.cstates⟩

@[simp] theorem flat_mod (r : TxResult) (m : ModType) (d : Descr) : (mkDPart r m d).flat.mod = m := rfl
@[simp] theorem flat_descr (r : TxResult) (m : ModType) (d : Descr) : (mkDPart r m d).flat.descr = d := rfl
/-- a provider notification as the flat report the consumer takes: the per-MDS parts of a state report concatenated -/
def Rep.flat : Rep → Report
  | .descr vg parts => { kind := .description, vg := vg, parts := parts.map DPart.flat }
  | .states k vg parts => { kind := k, vg := vg, states := parts.flatMap (·.2) }
  | .ctx vg parts => { kind := .context, vg := vg, cstates := parts.flatMap (·.2) }

def toReports (t' : Mdib.Tables) (vg : VersionGroup) (r : TxResult) : List Report := (mkReports t' vg r).map Rep.flat

theorem lookD (t : Mdib.Tables) (q : Nat) (i : Option Nat) (k : Handle) :
    lookupBy (·.handle) (absCore t q i).tabs.descrs k = findD t k := rfl
theorem lookS (t : Mdib.Tables) (q : Nat) (i : Option Nat) (k : Handle) :
    lookupBy (·.dh) (absCore t q i).tabs.states k = findS t k := rfl
theorem lookC (t : Mdib.Tables) (q : Nat) (i : Option Nat) (k : Handle) :
    lookupBy (·.h) (absCore t q i).tabs.cstates k = findC t k := rfl

/-- the parts of the description modification report -/
def resParts (r : TxResult) : List DescrPart :=
  (r.descrUpdated.map (mkDPart r .update) ++ r.descrCreated.map (mkDPart r .create) ++ r.descrDeleted.map (mkDPart r .delete)).map DPart.flat

theorem stateReportStates_append (a b : List Report) : stateReportStates (a ++ b) = stateReportStates a ++ stateReportStates b := by
  simp [stateReportStates]
theorem contextReportStates_append (a b : List Report) : contextReportStates (a ++ b) = contextReportStates a ++ contextReportStates b := by
  simp [contextReportStates]
theorem descrParts_append (a b : List Report) : descrParts (a ++ b) = descrParts a ++ descrParts b := by
  simp [descrParts]

/-- what a list of flat reports carries under `vg`: states and context states as sets (the grouping by MDS permutes them), parts -/
structure Carries (vg : VersionGroup) (rs : List Report) (ss : List SState) (cs : List CState) (ps : List DescrPart) : Prop where
  vg : ∀ x ∈ rs, x.vg = vg
  states : ∀ y, y ∈ stateReportStates rs ↔ y ∈ ss
  ctx : ∀ y, y ∈ contextReportStates rs ↔ y ∈ cs
  parts : descrParts rs = ps

theorem Carries.nil (vg : VersionGroup) : Carries vg [] [] [] [] := ⟨List.forall_mem_nil _, fun _ => .rfl, fun _ => .rfl, rfl⟩

theorem Carries.append {vg : VersionGroup} {a b : List Report} {ss ss' : List SState} {cs cs' : List CState} {ps ps' : List DescrPart}
    (h : Carries vg a ss cs ps) (h' : Carries vg b ss' cs' ps') : Carries vg (a ++ b) (ss ++ ss') (cs ++ cs') (ps ++ ps') where
  vg x hx := (List.mem_append.1 hx).elim (h.vg x) (h'.vg x)
  states y := by rw [stateReportStates_append, List.mem_append, List.mem_append, h.states, h'.states]
  ctx y := by rw [contextReportStates_append, List.mem_append, List.mem_append, h.ctx, h'.ctx]
  parts := by rw [descrParts_append, h.parts, h'.parts]

theorem Carries.single (k : ReportKind) (vg : VersionGroup) (ss : List SState) (cs : List CState) (ps : List DescrPart) :
    Carries vg [{ kind := k, vg := vg, states := ss, cstates := cs, parts := ps }]
      (if k != .description && k != .context then ss else []) (if k == .context then cs else []) (if k == .description then ps else []) := by
  refine ⟨fun y hy => by rw [List.mem_singleton.1 hy], fun y => ?_, fun y => ?_, ?_⟩
  · rw [stateReportStates, List.filter_cons]; split <;> simp
  · rw [contextReportStates, List.filter_cons]; split <;> simp
  · rw [descrParts, List.filter_cons]; split <;> simp

theorem Carries.perm {vg : VersionGroup} {rs : List Report} {ss ss' : List SState} {cs cs' : List CState} {ps : List DescrPart}
    (h : Carries vg rs ss cs ps) (hs : ∀ y, y ∈ ss ↔ y ∈ ss') (hc : ∀ y, y ∈ cs ↔ y ∈ cs') : Carries vg rs ss' cs' ps :=
  ⟨h.vg, fun y => (h.states y).trans (hs y), fun y => (h.ctx y).trans (hc y), h.parts⟩

theorem Carries.ne_nil {vg : VersionGroup} {rs : List Report} {ss : List SState} {cs : List CState} {ps : List DescrPart}
    (h : Carries vg rs ss cs ps) (hne : ss ≠ [] ∨ cs ≠ [] ∨ ps ≠ []) : rs ≠ [] := by
  rintro rfl
  rcases hne with hne | hne | hne
  · obtain ⟨y, hy⟩ := List.exists_mem_of_ne_nil _ hne; cases (h.states y).2 hy
  · obtain ⟨y, hy⟩ := List.exists_mem_of_ne_nil _ hne; cases (h.ctx y).2 hy
  · exact hne h.parts.symm

def descrRep (vg : VersionGroup) (r : TxResult) : List Rep :=
  if r.descrUpdated.isEmpty && r.descrCreated.isEmpty && r.descrDeleted.isEmpty then [] else
    [.descr vg (r.descrUpdated.map (mkDPart r .update) ++ r.descrCreated.map (mkDPart r .create)
                ++ r.descrDeleted.map (mkDPart r .delete))]

def ctxRep (t : Mdib.Tables) (vg : VersionGroup) (r : TxResult) : List Rep :=
  if r.ctx.isEmpty then [] else [.ctx vg (groupBy (fun c => (mdsOfState t c.dh).getD 0) r.ctx)]

theorem mkReports_eq (t : Mdib.Tables) (vg : VersionGroup) (r : TxResult) :
    mkReports t vg r = descrRep vg r ++ stateReport t vg .metric r.metric ++ stateReport t vg .alert r.alert ++
      stateReport t vg .component r.comp ++ ctxRep t vg r ++ stateReport t vg .operational r.op ++ stateReport t vg .waveform r.rt := rfl

theorem carries_descrRep (vg : VersionGroup) (r : TxResult) : Carries vg ((descrRep vg r).map Rep.flat) [] [] (resParts r) := by
  unfold descrRep
  split
  · rename_i he
    simp only [Bool.and_eq_true, List.isEmpty_iff] at he
    rw [resParts, he.1.1, he.1.2, he.2]
    exact .nil vg
  · exact .single .description vg [] [] _

theorem carries_stateReport (t : Mdib.Tables) (vg : VersionGroup) (k : ReportKind) (l : List SState)
    (hk : (k != .description && k != .context) = true) : Carries vg ((stateReport t vg k l).map Rep.flat) l [] [] := by
  unfold stateReport
  split
  · rename_i he; rw [List.isEmpty_iff.1 he]; exact .nil vg
  · have h := Carries.single k vg ((groupBy (fun s : SState => (mdsOfState t s.dh).getD 0) l).flatMap (·.2)) [] []
    rw [if_pos hk, ite_self, ite_self] at h
    exact h.perm (fun _ => (groupBy_grouped _ l).flat.mem_iff) (fun _ => .rfl)

theorem carries_ctxRep (t : Mdib.Tables) (vg : VersionGroup) (r : TxResult) : Carries vg ((ctxRep t vg r).map Rep.flat) [] r.ctx [] := by
  unfold ctxRep
  split
  · rename_i he; rw [List.isEmpty_iff.1 he]; exact .nil vg
  · have h := Carries.single .context vg [] ((groupBy (fun c : CState => (mdsOfState t c.dh).getD 0) r.ctx).flatMap (·.2)) []
    exact h.perm (fun _ => .rfl) (fun _ => (groupBy_grouped _ r.ctx).flat.mem_iff)

theorem toReports_carries (t : Mdib.Tables) (vg : VersionGroup) (r : TxResult) :
    Carries vg (toReports t vg r) r.allS r.ctx (resParts r) := by
  have h := ((((((carries_descrRep vg r).append (carries_stateReport t vg .metric r.metric rfl)).append
    (carries_stateReport t vg .alert r.alert rfl)).append (carries_stateReport t vg .component r.comp rfl)).append
    (carries_ctxRep t vg r)).append (carries_stateReport t vg .operational r.op rfl)).append
    (carries_stateReport t vg .waveform r.rt rfl)
  simpa only [toReports, mkReports_eq, List.map_append, List.append_assoc, List.nil_append, List.append_nil, TxResult.allS] using h

theorem mem_resParts {r : TxResult} {p : DescrPart} :
    p ∈ resParts r ↔ (∃ d ∈ r.descrUpdated, p = (mkDPart r .update d).flat) ∨ (∃ d ∈ r.descrCreated, p = (mkDPart r .create d).flat) ∨
      (∃ d ∈ r.descrDeleted, p = (mkDPart r .delete d).flat) := by
  simp only [resParts, List.map_append, List.map_map, List.mem_append, List.mem_map, Function.comp, or_assoc, eq_comm]

theorem resParts_handles (r : TxResult) :
    (resParts r).map (·.descr.handle) = (r.descrUpdated ++ r.descrCreated ++ r.descrDeleted).map (·.handle) := by
  simp only [resParts, List.map_append, List.map_map]
  rfl

theorem resParts_ne_nil {r : TxResult} (h : r.descrUpdated ≠ [] ∨ r.descrCreated ≠ [] ∨ r.descrDeleted ≠ []) : resParts r ≠ [] := by
  intro e
  simp only [resParts, List.map_eq_nil_iff, List.append_eq_nil_iff] at e
  exact h.elim (· e.1.1) (·.elim (· e.1.2) (· e.2))

theorem resParts_deleted (r : TxResult) : Consumer.deletedHandles (resParts r) = r.descrDeleted.map (·.handle) := by
  have none : ∀ (l : List Descr) (m : ModType), m ≠ .delete →
      ((l.map (mkDPart r m)).map DPart.flat).filter (fun p => p.mod == ModType.delete) = [] := fun l m hm =>
    List.filter_eq_nil_iff.2 fun p hp => by
      obtain ⟨_, hq, rfl⟩ := List.mem_map.1 hp
      obtain ⟨d, _, rfl⟩ := List.mem_map.1 hq
      exact fun e => hm (beq_iff_eq.1 e)
  have all : ((r.descrDeleted.map (mkDPart r .delete)).map DPart.flat).filter (fun p => p.mod == ModType.delete) =
      (r.descrDeleted.map (mkDPart r .delete)).map DPart.flat := List.filter_eq_self.2 fun p hp => by
    obtain ⟨_, hq, rfl⟩ := List.mem_map.1 hp
    obtain ⟨d, _, rfl⟩ := List.mem_map.1 hq
    rfl
  rw [Consumer.deletedHandles, partHandles, resParts, List.map_append, List.map_append, List.filter_append, List.filter_append,
    none _ _ ModType.noConfusion, none _ _ ModType.noConfusion, all, List.nil_append, List.nil_append, List.map_map, List.map_map]
  rfl

theorem partStates_sub (r : TxResult) : (∀ s ∈ partStates (resParts r), s ∈ r.allS) ∧ (∀ c ∈ partCStates (resParts r), c ∈ r.ctx) := by
  have part : ∀ p ∈ resParts r, (∀ s ∈ p.states, s ∈ r.allS) ∧ (∀ c ∈ p.cstates, c ∈ r.ctx) := by
    intro p hp
    rcases mem_resParts.1 hp with ⟨d, _, rfl⟩ | ⟨d, _, rfl⟩ | ⟨d, _, rfl⟩ <;>
      exact ⟨fun s h => (List.mem_filter.1 h).1, fun c h => (List.mem_filter.1 h).1⟩
  constructor
  · intro s hs
    obtain ⟨p, hp, hs⟩ := List.mem_flatMap.1 hs
    exact (part p (List.mem_filter.1 hp).1).1 s hs
  · intro c hc
    obtain ⟨p, hp, hc⟩ := List.mem_flatMap.1 hc
    exact (part p (List.mem_filter.1 hp).1).2 c hc

/-- what has to be known about a committed transaction `t → t'` with result `r` -/
structure PFacts (t t' : Mdib.Tables) (r : TxResult) : Prop where
  ver : t.ver < t'.ver
  wf : WF t
  wf' : WF t'
  some_ : r.allS ≠ [] ∨ r.ctx ≠ [] ∨ r.descrUpdated ≠ [] ∨ r.descrCreated ≠ [] ∨ r.descrDeleted ≠ []
  partsDistinct : ((r.descrUpdated ++ r.descrCreated ++ r.descrDeleted).map (·.handle)).Nodup
  created : ∀ d ∈ r.descrCreated, findD t d.handle = none ∧ findD t' d.handle = some d
  updated : ∀ d ∈ r.descrUpdated, ∃ old, findD t d.handle = some old ∧ old.parent = d.parent ∧ old.mds = d.mds ∧
    findD t' d.handle = some d
  deleted : ∀ d ∈ r.descrDeleted, (findD t d.handle).isSome ∧ findD t' d.handle = none
  descrComplete : ∀ d ∈ t'.descrs, findD t d.handle = some d ∨ d.handle ∈ (r.descrUpdated ++ r.descrCreated).map (·.handle)
  descrRemoved : ∀ d ∈ t.descrs, (findD t' d.handle).isSome ∨ d.handle ∈ r.descrDeleted.map (·.handle)
  flat : ∀ q i, flatDeletes (absCore t q i) [] (resParts r) = true
  stateSound : ∀ s ∈ r.allS, findS t' s.dh = some s
  stateNewer : ∀ s ∈ r.allS, ∀ old, findS t s.dh = some old → old.sv < s.sv
  stateComplete : ∀ s ∈ t'.states, findS t s.dh = some s ∨ s ∈ r.allS
  stateRemoved : ∀ s ∈ t.states, (findS t' s.dh).isSome ∨ s.dh ∈ r.descrDeleted.map (·.handle)
  cstateSound : ∀ c ∈ r.ctx, findC t' c.h = some c
  cstateNewer : ∀ c ∈ r.ctx, ∀ old, findC t c.h = some old → old.sv < c.sv
  cstateComplete : ∀ c ∈ t'.ctx, findC t c.h = some c ∨ c ∈ r.ctx
  cstateRemoved : ∀ c ∈ t.ctx, (findC t' c.h).isSome ∨ c.dh ∈ r.descrDeleted.map (·.handle)
  cstateStable : ∀ c ∈ t'.ctx, ∀ old, findC t c.h = some old → old.dh = c.dh
  ctxUpdateLists : ∀ d ∈ r.descrUpdated, d.kind = .context → ∀ c ∈ t.ctx ++ t'.ctx, c.dh = d.handle →
    ∃ x ∈ r.ctx, x.h = c.h ∧ x.dh = d.handle

/-- `f`, `f'`: the lookup of one table before and after the transaction; `rep`: the records the result reports for it -/
theorem reported_of_changed {α : Type} {f f' : Handle → Option α} {key : α → Handle} {rep : List α}
    (sound : ∀ y ∈ rep, f' (key y) = some y) (compl : ∀ k, f' k ≠ f k → (∃ y ∈ rep, key y = k) ∨ f' k = none)
    {x : α} (hx : f' (key x) = some x) : f (key x) = some x ∨ x ∈ rep := by
  by_cases e : f (key x) = some x
  · exact .inl e
  · rcases compl (key x) (hx ▸ fun e' => e e'.symm) with ⟨y, hy, e'⟩ | hn
    · have := sound y hy
      rw [e', hx] at this
      exact .inr (Option.some.inj this ▸ hy)
    · rw [hx] at hn; cases hn

end Sdc.Mdib
