import SdcModel.Eventing
import SdcModel.Proofs.KeyedList
/-!
The simulation invariant `Sim` between the manager model and the subscriber-side reference monitor: preserved by
every op; what it says about the messages and answers of a single op; what is gone stays gone along a run.
-/
namespace Sdc.Eventing

/-- distinct subscriptions have distinct dispatch identifiers (uuid4 in the code) -/
def Cfg.WF (cfg : Cfg) : Prop := ∀ a b, cfg.mkKey a = cfg.mkKey b → a = b

theorem grant_zero (cfg : Cfg) : grant cfg (some 0) = cfg.maxDur := rfl
theorem grant_none (cfg : Cfg) : grant cfg none = cfg.maxDur := rfl

variable {cfg : Cfg} {st : State} {m : Mon} {k : Key} {s : Sub} {i : Nat}

theorem Dispatch.mkKey_injective (d : Dispatch) : ∀ a b, d.mkKey a = d.mkKey b → a = b := by
  intro a b h
  cases d
  · exact Option.some.inj (congrArg Prod.snd h)
  · exact Option.some.inj (congrArg Prod.fst h)

theorem eq_of_isSuffixOf_of_head {α : Type} [BEq α] [LawfulBEq α] {c : α} {a f : List α} (ha : a.head? = some c)
    (hf : c ∉ f.tail) (h : a.isSuffixOf f = true) : a = f := by
  obtain ⟨p, rfl⟩ := List.isSuffixOf_iff_suffix.mp h
  cases p with
  | nil => rfl
  | cons x p => exact absurd (List.mem_append_right p (List.mem_of_mem_head? ha)) hf

theorem grant_bounds (cfg : Cfg) : ∀ e, grant cfg e ≤ cfg.maxDur ∧ ∀ r, e = some r → 0 < r → grant cfg e ≤ r
  | none => ⟨Nat.le_refl _, nofun⟩
  | some 0 => ⟨Nat.le_refl _, fun _ he hr => absurd (Option.some.inj he ▸ hr) (Nat.lt_irrefl 0)⟩
  | some (_ + 1) => ⟨Nat.min_le_right _ _, fun _ he _ => Option.some.inj he ▸ Nat.min_le_left _ _⟩

theorem renewed_remaining (cfg : Cfg) (now : Nat) (e : Option Nat) (s : Sub) :
    (renewed cfg now e s).remaining now = grant cfg e := by
  show grant cfg e - (now - now) = grant cfg e
  rw [Nat.sub_self, Nat.sub_zero]

/-- the observer's record of a subscription the manager holds (not a `Repr` instance) -/
def Sub.repr (s : Sub) : Rec :=
  ⟨s.notifyTo, s.endTo, s.filter, s.started, s.expire, s.errors, s.unsubAt.isSome, false, s.notifyRef, s.endRef⟩

theorem alive_iff {now : Nat} (hc : s.closed = false) (hs : s.started ≤ now) :
    s.repr.alive cfg now ↔ (s.valid cfg now = true ∧ s.unsubAt = none) := by
  have hu : s.unsubAt.isSome = false ↔ s.unsubAt = none := Option.isSome_eq_false_iff.trans Option.isNone_iff_eq_none
  rw [Sub.valid, hc, Bool.not_false, Bool.true_and, Bool.and_eq_true, decide_eq_true_iff, decide_eq_true_iff,
    Sub.remaining, Nat.sub_pos_iff_lt, Nat.sub_lt_iff_lt_add' hs]
  exact ⟨fun ⟨h1, _, h34⟩ => ⟨h34, hu.mp h1⟩, fun ⟨h34, h1⟩ => ⟨hu.mpr h1, rfl, h34⟩⟩

theorem not_alive_mono (cfg : Cfg) (r : Rec) (now dt : Nat) (h : ¬ r.alive cfg now) : ¬ r.alive cfg (now + dt) := by
  rintro ⟨h1, h2, h3, h4⟩
  exact h ⟨h1, h2, Nat.lt_of_le_of_lt (Nat.le_add_right now dt) h3, h4⟩

section
variable (g : Sub → List Msg) (hg : ∀ s, ∀ msg ∈ g s, msg.sub = s.id) (l : List Sub)
include hg

theorem filter_flatMap_none (j : Nat) (hn : ∀ s ∈ l, s.id ≠ j) : (l.flatMap g).filter (fun msg => msg.sub == j) = [] := by
  rw [List.filter_eq_nil_iff]
  intro msg hm
  obtain ⟨s, hs, hm⟩ := List.mem_flatMap.mp hm
  rw [hg s msg hm, beq_iff_eq]
  exact hn s hs

theorem filter_flatMap_single (hnd : (l.map (·.id)).Nodup) (s : Sub) (hs : s ∈ l) :
    (l.flatMap g).filter (fun msg => msg.sub == s.id) = g s := by
  induction l with
  | nil => cases hs
  | cons x xs ih =>
    obtain ⟨hx, hnd⟩ := List.nodup_cons.mp hnd
    rw [List.flatMap_cons, List.filter_append]
    rcases List.mem_cons.mp hs with rfl | hs'
    · rw [filter_flatMap_none g hg xs s.id fun t ht h => hx (List.mem_map.mpr ⟨t, ht, h⟩), List.append_nil,
        List.filter_eq_self]
      exact fun msg hm => beq_iff_eq.mpr (hg s msg hm)
    · rw [ih hnd hs', List.filter_eq_nil_iff.mpr, List.nil_append]
      intro msg hm
      rw [hg x msg hm, beq_iff_eq]
      exact fun h => hx (List.mem_map.mpr ⟨s, hs', h.symm⟩)

end

theorem hit_iff : hit cfg k s = true ↔ (cfg.mkKey s.id = k ∧ s.unsubAt = none) := by
  rw [hit, Bool.and_eq_true, beq_iff_eq, Option.isNone_iff_eq_none]

theorem find_some (h : st.find cfg k = some s) : s ∈ st.subs ∧ cfg.mkKey s.id = k ∧ s.unsubAt = none :=
  ⟨List.mem_of_find?_eq_some h, hit_iff.mp (List.find?_some h)⟩

theorem step_of_find_none (hf : st.find cfg k = none) :
    (∀ e, step cfg st (.renew k e) = (st, .fault)) ∧ step cfg st (.getStatus k) = (st, .fault) ∧
      step cfg st (.unsubscribe k) = (st, .fault) := by
  simp only [step, hf, implies_true, and_self]

section
variable (hf : st.find cfg k = some s)
include hf

theorem step_renew_some (e : Option Nat) :
    step cfg st (.renew k e) =
      ({ st with subs := st.subs.map fun x => if hit cfg k x then renewed cfg st.now e x else x }, .remaining (grant cfg e)) := by
  simp only [step, hf, renewed_remaining]

theorem step_getStatus_some : step cfg st (.getStatus k) = (st, .remaining (s.remaining st.now)) := by
  simp only [step, hf]

theorem step_unsubscribe_some :
    step cfg st (.unsubscribe k) =
      ({ st with subs := st.subs.map fun x => if hit cfg k x then { x with unsubAt := some st.now } else x }, .unsubscribed) := by
  simp only [step, hf]

end

/-- the subscription `step` creates for an accepted Subscribe (written inline there) -/
def newSub (cfg : Cfg) (st : State) (nt : Nat) (et : Option Nat) (f : List Str) (e : Option Nat) (nr er : Bool) : Sub :=
  renewed cfg st.now e ⟨st.nextId, nt, et, f, 0, 0, 0, false, none, nr, et.isSome && er⟩

section
variable {nt : Nat} {et : Option Nat} {d : Bool} {e : Option Nat} {nr er : Bool}

theorem step_subscribe_some (f : List Str) :
    step cfg st (.subscribe nt et (some f) d e nr er) =
      if cfg.checkDialect && !d then (st, .rejected) else
        ({ st with subs := st.subs ++ [newSub cfg st nt et f e nr er], nextId := st.nextId + 1 },
         .subscribed st.nextId (grant cfg e)) := by
  rw [← renewed_remaining cfg st.now e ⟨st.nextId, nt, et, f, 0, 0, 0, false, none, nr, et.isSome && er⟩]
  rfl

theorem subscribed_eq {fl : Option (List Str)} {g : Nat} (h : (step cfg st (.subscribe nt et fl d e nr er)).2 = .subscribed i g) :
    i = st.nextId ∧ g = grant cfg e := by
  cases fl with
  | none => cases h
  | some f =>
    rw [step_subscribe_some] at h
    split at h
    · cases h
    · exact ⟨(Out.subscribed.inj h).1.symm, (Out.subscribed.inj h).2.symm⟩

end

section
variable {ov : List (Nat × Outcome)} {a : Str}

/-- the condition under which `deliver` sends (written inline there) -/
def deliverable (cfg : Cfg) (st : State) (a : Str) (s : Sub) : Bool :=
  suffixMatch s.filter a && s.valid cfg st.now && s.unsubAt.isNone

theorem deliver_pos (h : deliverable cfg st a s = true) :
    deliver cfg st ov a s =
      ({ s with errors := if st.outcomeFor ov s.id s.notifyTo = .ok then 0 else s.errors + 1 },
       [⟨.notification a, s.id, s.notifyTo, st.outcomeFor ov s.id s.notifyTo, s.notifyRefs⟩]) :=
  if_pos h

theorem deliver_neg (h : deliverable cfg st a s = false) : deliver cfg st ov a s = (s, []) :=
  if_neg (ne_true_of_eq_false h)

theorem deliver_id (cfg : Cfg) (st : State) (ov : List (Nat × Outcome)) (a : Str) (s : Sub) :
    (deliver cfg st ov a s).1.id = s.id := by
  cases h : deliverable cfg st a s
  · rw [deliver_neg h]
  · rw [deliver_pos h]

theorem deliver_sub : ∀ msg ∈ (deliver cfg st ov a s).2, msg.sub = s.id := by
  intro msg hm
  cases h : deliverable cfg st a s
  · rw [deliver_neg h] at hm
    cases hm
  · rw [deliver_pos h, List.mem_singleton] at hm
    rw [hm]

theorem endMsg_sub : ∀ msg ∈ endMsg cfg st ov s, msg.sub = s.id := by
  intro msg hm
  unfold endMsg at hm
  split at hm
  · rw [List.mem_singleton.mp hm]
  · cases hm

theorem deliverable_iff (hc : s.closed = false) (hs : s.started ≤ st.now) :
    deliverable cfg st a s = true ↔ s.repr.alive cfg st.now ∧ suffixMatch s.repr.filter a = true := by
  rw [alive_iff hc hs, deliverable, Bool.and_eq_true, Bool.and_eq_true, Option.isNone_iff_eq_none]
  exact ⟨fun ⟨⟨h1, h2⟩, h3⟩ => ⟨⟨h2, h3⟩, h1⟩, fun ⟨⟨h2, h3⟩, h1⟩ => ⟨⟨h1, h2⟩, h3⟩⟩

theorem step_notify (cfg : Cfg) (st : State) (a : Str) (ov : List (Nat × Outcome)) :
    step cfg st (.notify a ov) =
      ({ st with subs := st.subs.map fun s => (deliver cfg st ov a s).1 },
       .sent (st.subs.flatMap fun s => (deliver cfg st ov a s).2)) := by
  show (State.mk ((st.subs.map (deliver cfg st ov a)).map (·.1)) _ _ _, Out.sent ((st.subs.map (deliver cfg st ov a)).flatMap (·.2))) = _
  rw [List.map_map, List.flatMap_map]
  rfl

end

/-- The record of a subscription the manager holds is its `repr`; such a subscription is open (no step sets `closed`: the
    code closes a subscription only when it takes it out of the table); a record whose subscription the manager has
    dropped is not alive. -/
structure Sim (cfg : Cfg) (st : State) (m : Mon) : Prop where
  now_eq : m.now = st.now
  nodup : (st.subs.map (·.id)).Nodup
  lt : ∀ s ∈ st.subs, s.id < st.nextId
  fresh : ∀ j, st.nextId ≤ j → m.recs j = none
  recOf : ∀ s ∈ st.subs, m.recs s.id = some s.repr ∧ s.closed = false ∧ s.started ≤ st.now
  dead : ∀ j r, m.recs j = some r → (∀ s ∈ st.subs, s.id ≠ j) → ¬ r.alive cfg st.now

theorem sim_init (cfg : Cfg) : Sim cfg init Mon.init :=
  ⟨rfl, List.nodup_nil, fun _ hs => absurd hs List.not_mem_nil, fun _ _ => rfl, fun _ hs => absurd hs List.not_mem_nil,
    fun _ _ hr => nomatch hr⟩

namespace Sim
variable (h : Sim cfg st m)
include h

theorem alive_mem {r : Rec} (hr : m.recs i = some r) (ha : r.alive cfg st.now) : ∃ s ∈ st.subs, s.id = i ∧ s.repr = r := by
  by_cases hex : ∃ s ∈ st.subs, s.id = i
  · obtain ⟨s, hs, rfl⟩ := hex
    exact ⟨s, hs, rfl, Option.some.inj ((h.recOf s hs).1.symm.trans hr)⟩
  · exact absurd ha (h.dead i r hr fun s hs hj => hex ⟨s, hs, hj⟩)

/-- ops that rewrite the subscriptions in place: Notify directly, Renew / Unsubscribe through `update` -/
theorem map (f : Sub → Sub) (recs' : Nat → Option Rec) (hid : ∀ s, (f s).id = s.id)
    (h1 : ∀ s ∈ st.subs, recs' s.id = some (f s).repr ∧ (f s).closed = false ∧ (f s).started ≤ st.now)
    (h2 : ∀ j, (∀ s ∈ st.subs, s.id ≠ j) → recs' j = m.recs j) :
    Sim cfg { st with subs := st.subs.map f } { m with recs := recs' } := by
  have hmem : ∀ {P : Sub → Prop}, (∀ s ∈ st.subs, P (f s)) → ∀ s' ∈ st.subs.map f, P s' := fun hP s' hs' => by
    obtain ⟨s, hs, rfl⟩ := List.mem_map.mp hs'
    exact hP s hs
  have hout : ∀ j, (∀ s' ∈ st.subs.map f, s'.id ≠ j) → ∀ s ∈ st.subs, s.id ≠ j := fun j hn s hs =>
    hid s ▸ hn (f s) (List.mem_map_of_mem hs)
  refine ⟨h.now_eq, ?_, hmem fun s hs => (hid s).symm ▸ h.lt s hs, fun j hj => ?_,
    hmem fun s hs => (hid s).symm ▸ h1 s hs, fun j r hr hn => ?_⟩
  · have : (st.subs.map f).map (·.id) = st.subs.map (·.id) := by
      rw [List.map_map]
      exact List.map_congr_left fun s _ => hid s
    exact this ▸ h.nodup
  · exact (h2 j fun s hs => Nat.ne_of_lt (Nat.lt_of_lt_of_le (h.lt s hs) hj)).trans (h.fresh j hj)
  · exact h.dead j r ((h2 j (hout j hn)).symm.trans hr) (hout j hn)

/-- Renew / Unsubscribe; with unique ids and injective keys the subscription found is the only one carrying the key -/
theorem update (hw : cfg.WF) {s0 : Sub} (hf : st.find cfg k = some s0) (g : Sub → Sub) (g' : Rec → Rec)
    (hid : ∀ s, (g s).id = s.id) (hg : ∀ s, (g s).repr = g' s.repr) (hc : ∀ s, (g s).closed = s.closed)
    (hst : ∀ s, s.started ≤ st.now → (g s).started ≤ st.now) :
    Sim cfg { st with subs := st.subs.map fun x => if hit cfg k x then g x else x }
      { m with recs := fun j => if cfg.mkKey j = k then (m.recs j).map g' else m.recs j } := by
  obtain ⟨hs0, hk0, hu0⟩ := find_some hf
  refine h.map _ _ (fun s => ?_) (fun s hs => ?_) (fun j hj => if_neg fun hk => hj s0 hs0 (hw _ _ (hk0.trans hk.symm)))
  · split
    · exact hid s
    · rfl
  · obtain ⟨hr, hcl, hs'⟩ := h.recOf s hs
    by_cases hk : cfg.mkKey s.id = k
    · obtain rfl := Keyed.eq_of_nodup_map h.nodup hs hs0 (hw _ _ (hk.trans hk0.symm))
      rw [if_pos hk, if_pos (hit_iff.mpr ⟨hk, hu0⟩), hr]
      exact ⟨congrArg some (hg s).symm, (hc s).trans hcl, hst s hs'⟩
    · rw [if_neg hk, if_neg fun hh => hk (hit_iff.mp hh).1]
      exact ⟨hr, hcl, hs'⟩

/-- Subscribe -/
theorem push (s : Sub) (r : Rec) (hr : s.repr = r) (hid : s.id = st.nextId) (hc : s.closed = false)
    (hst : s.started ≤ st.now) :
    Sim cfg { st with subs := st.subs ++ [s], nextId := st.nextId + 1 }
      { m with recs := fun j => if j = st.nextId then some r else m.recs j } := by
  subst hr
  have hne : ∀ t ∈ st.subs, t.id ≠ st.nextId := fun t ht => Nat.ne_of_lt (h.lt t ht)
  refine ⟨h.now_eq, ?_, fun t ht => ?_, fun j hj => ?_, fun t ht => ?_, fun j r hr hn => ?_⟩
  · rw [List.map_append, List.nodup_append]
    refine ⟨h.nodup, List.pairwise_singleton _ _, fun a ha b hb => ?_⟩
    obtain ⟨t, ht, rfl⟩ := List.mem_map.mp ha
    obtain rfl : b = s.id := List.mem_singleton.mp hb
    exact hid ▸ hne t ht
  · rcases List.mem_append.mp ht with ht | ht
    · exact Nat.lt_succ_of_lt (h.lt t ht)
    · rw [List.mem_singleton.mp ht, hid]
      exact Nat.lt_succ_self _
  · exact (if_neg (Nat.ne_of_gt hj)).trans (h.fresh j (Nat.le_of_succ_le hj))
  · rcases List.mem_append.mp ht with ht | ht
    · exact ⟨(if_neg (hne t ht)).trans (h.recOf t ht).1, (h.recOf t ht).2⟩
    · rw [List.mem_singleton.mp ht]
      exact ⟨if_pos hid, hc, hst⟩
  · have hj : j ≠ st.nextId := fun hj => hn s (List.mem_append_right _ (List.mem_singleton_self s)) (hid.trans hj.symm)
    exact h.dead j r ((if_neg hj).symm.trans hr) fun t ht => hn t (List.mem_append_left _ ht)

/-- If every subscription sends what `F` predicts from its id and record, and `F` predicts nothing for a record that
    is not alive, then subscriber `i` is sent what `F` predicts from the monitor's record of `i`. -/
theorem msgs_for (g : Sub → List Msg) (hg : ∀ s, ∀ msg ∈ g s, msg.sub = s.id) (F : Nat → Rec → List Msg)
    (hF : ∀ s, s.closed = false → s.started ≤ st.now → g s = F s.id s.repr)
    (hdead : ∀ i r, ¬ r.alive cfg st.now → F i r = []) (i : Nat) :
    (st.subs.flatMap g).filter (fun msg => msg.sub == i) = (m.recs i).elim [] (F i) := by
  by_cases hex : ∃ s ∈ st.subs, s.id = i
  · obtain ⟨s, hs, rfl⟩ := hex
    obtain ⟨hr, hc, hst⟩ := h.recOf s hs
    rw [filter_flatMap_single g hg st.subs h.nodup s hs, hr]
    exact hF s hc hst
  · have hn : ∀ s ∈ st.subs, s.id ≠ i := fun s hs hj => hex ⟨s, hs, hj⟩
    rw [filter_flatMap_none g hg st.subs i hn]
    cases hm : m.recs i with
    | none => rfl
    | some r => exact (hdead i r (h.dead i r hm hn)).symm

end Sim

section
variable (h : Sim cfg st m)
include h

theorem sim_notify (a : Str) (ov : List (Nat × Outcome)) :
    Sim cfg (step cfg st (.notify a ov)).1 (m.step cfg (.notify a ov) (step cfg st (.notify a ov)).2) := by
  rw [step_notify]
  have hg : ∀ s : Sub, ∀ msg ∈ (deliver cfg st ov a s).2, msg.sub = s.id := fun s => deliver_sub
  refine h.map _ _ (deliver_id cfg st ov a) (fun s hs => ?_) (fun j hj => ?_)
  · obtain ⟨hr, hc, hst⟩ := h.recOf s hs
    show (m.recs s.id).map _ = _ ∧ _
    rw [hr, ← List.head?_filter, filter_flatMap_single _ hg st.subs h.nodup s hs]
    cases hd : deliverable cfg st a s
    · rw [deliver_neg hd]
      exact ⟨rfl, hc, hst⟩
    · rw [deliver_pos hd]
      exact ⟨rfl, hc, hst⟩
  · show (m.recs j).map _ = _
    rw [← List.head?_filter, filter_flatMap_none _ hg st.subs j hj]
    exact Option.map_id'

theorem sim_stop (b : Bool) (ov : List (Nat × Outcome)) :
    Sim cfg (step cfg st (.stop b ov)).1 (m.step cfg (.stop b ov) (step cfg st (.stop b ov)).2) := by
  refine ⟨h.now_eq, List.nodup_nil, fun _ hs => absurd hs List.not_mem_nil,
    fun j hj => congrArg (Option.map _) (h.fresh j hj), fun _ hs => absurd hs List.not_mem_nil, fun j r hr _ ha => ?_⟩
  obtain ⟨r0, _, rfl⟩ := Option.map_eq_some_iff.mp hr
  exact Bool.noConfusion ha.2.1

/-- what house-keeping drops is obsolete, hence not alive in the monitor's eyes -/
theorem sim_housekeeping :
    Sim cfg (step cfg st .housekeeping).1 (m.step cfg .housekeeping (step cfg st .housekeeping).2) := by
  refine ⟨h.now_eq, List.Nodup.sublist (List.Sublist.map _ List.filter_sublist) h.nodup,
    fun s hs => h.lt s (List.mem_filter.mp hs).1, h.fresh, fun s hs => h.recOf s (List.mem_filter.mp hs).1,
    fun j r hr hn ha => ?_⟩
  obtain ⟨s, hs, rfl, rfl⟩ := h.alive_mem hr ha
  obtain ⟨_, hc, hst⟩ := h.recOf s hs
  obtain ⟨hv, hu⟩ := (alive_iff hc hst).mp ha
  refine hn s (List.mem_filter.mpr ⟨hs, ?_⟩) rfl
  show (!(obsolete cfg st.now s && !s.closed)) = true
  rw [obsolete, hv, hu]
  rfl

theorem sim_step (hw : cfg.WF) (op : Op) : Sim cfg (step cfg st op).1 (m.step cfg op (step cfg st op).2) := by
  cases op with
  | subscribe nt et fl d e nr er =>
    cases fl with
    | none => exact h
    | some f =>
      rw [step_subscribe_some]
      split
      · exact h
      · exact h.push (newSub cfg st nt et f e nr er) _ (by rw [h.now_eq]; rfl) rfl rfl (Nat.le_refl _)
  | renew k e =>
    cases hf : st.find cfg k with
    | none => rw [(step_of_find_none hf).1 e]; exact h
    | some s0 =>
      rw [step_renew_some hf]
      exact h.update hw hf (renewed cfg st.now e) (fun x => { x with grantedAt := m.now, granted := grant cfg e })
        (fun _ => rfl) (fun _ => by rw [h.now_eq]; rfl) (fun _ => rfl) (fun _ _ => Nat.le_refl _)
  | getStatus k =>
    cases hf : st.find cfg k with
    | none => rw [(step_of_find_none hf).2.1]; exact h
    | some s0 => rw [step_getStatus_some hf]; exact h
  | unsubscribe k =>
    cases hf : st.find cfg k with
    | none => rw [(step_of_find_none hf).2.2]; exact h
    | some s0 =>
      rw [step_unsubscribe_some hf]
      exact h.update hw hf (fun x => { x with unsubAt := some st.now }) (fun x => { x with unsub := true })
        (fun _ => rfl) (fun _ => rfl) (fun _ => rfl) (fun _ hs => hs)
  | notify a ov => exact sim_notify h a ov
  | tick dt =>
    exact ⟨congrArg (· + dt) h.now_eq, h.nodup, h.lt, h.fresh,
      fun s hs => ⟨(h.recOf s hs).1, (h.recOf s hs).2.1, Nat.le_trans (h.recOf s hs).2.2 (Nat.le_add_right _ _)⟩,
      fun j r hr hn => not_alive_mono cfg r st.now dt (h.dead j r hr hn)⟩
  | setOutcome a o => exact ⟨h.now_eq, h.nodup, h.lt, h.fresh, h.recOf, h.dead⟩
  | housekeeping => exact sim_housekeeping h
  | stop b ov => exact sim_stop h b ov

theorem notify_filter (ov : List (Nat × Outcome)) (a : Str) (i : Nat) :
    ((st.subs.map (deliver cfg st ov a)).flatMap (·.2)).filter (fun msg => msg.sub == i) =
      match m.recs i with
      | some r => if r.alive cfg m.now ∧ suffixMatch r.filter a = true
                  then [⟨.notification a, i, r.notifyTo, st.outcomeFor ov i r.notifyTo, r.notifyRefs⟩] else []
      | none => [] := by
  rw [List.flatMap_map, h.now_eq, h.msgs_for _ (fun s => deliver_sub) (fun i r =>
    if r.alive cfg st.now ∧ suffixMatch r.filter a = true
    then [⟨.notification a, i, r.notifyTo, st.outcomeFor ov i r.notifyTo, r.notifyRefs⟩] else [])]
  · split
    · next hr => rw [hr]; rfl
    · next hr => rw [hr]; rfl
  · intro s hc hst
    cases hd : deliverable cfg st a s
    · rw [deliver_neg hd, if_neg]
      exact fun hh => Bool.false_ne_true (hd.symm.trans ((deliverable_iff hc hst).mpr hh))
    · rw [deliver_pos hd, if_pos ((deliverable_iff hc hst).mp hd)]
      rfl
  · exact fun i r hr => if_neg fun hh => hr hh.1

theorem stop_filter (ov : List (Nat × Outcome)) (i : Nat) :
    (st.subs.flatMap (endMsg cfg st ov)).filter (fun msg => msg.sub == i) =
      match m.recs i with
      | some r => if r.alive cfg m.now
                  then [⟨.subscriptionEnd, i, r.endTo.getD r.notifyTo, st.outcomeFor ov i (r.endTo.getD r.notifyTo), r.endRefs⟩] else []
      | none => [] := by
  rw [h.now_eq, h.msgs_for _ (fun s => endMsg_sub) (fun i r =>
    if r.alive cfg st.now
    then [⟨.subscriptionEnd, i, r.endTo.getD r.notifyTo, st.outcomeFor ov i (r.endTo.getD r.notifyTo), r.endRefs⟩] else [])]
  · split
    · next hr => rw [hr]; rfl
    · next hr => rw [hr]; rfl
  · intro s hc hst
    have hiff := alive_iff (cfg := cfg) hc hst
    by_cases ha : s.repr.alive cfg st.now
    · rw [if_pos ha, endMsg, (hiff.mp ha).1, (hiff.mp ha).2]
      rfl
    · rw [if_neg ha, endMsg, if_neg]
      intro hb
      rw [Bool.and_eq_true, Option.isNone_iff_eq_none] at hb
      exact ha (hiff.mpr ⟨hb.2, hb.1⟩)
  · exact fun i r hr => if_neg hr

end

-- `Mon.gone` stands behind `notify_filter` on purpose: its `match` shares the matcher made for that statement
-- (`notify_filter.match_1`); in front of it, the definition would be built from a matcher of its own.
/-- the observer's notion of "the provider (still) knows subscription `i`" -/
def Mon.known (m : Mon) (i : Nat) : Prop := ∃ r, m.recs i = some r ∧ r.unsub = false ∧ r.ended = false

/-- unsubscribed or ended, as seen by the observer -/
def Mon.gone (m : Mon) (i : Nat) : Prop :=
  match m.recs i with
  | some r => r.unsub = true ∨ r.ended = true
  | none => False

instance (m : Mon) (i : Nat) : Decidable (m.gone i) := by
  unfold Mon.gone; split <;> infer_instance

section
variable (h : Sim cfg st m)
include h

theorem find_known (hf : st.find cfg k = some s) :
    cfg.mkKey s.id = k ∧ m.recs s.id = some s.repr ∧ s.repr.unsub = false := by
  obtain ⟨hs, hk, hu⟩ := find_some hf
  exact ⟨hk, (h.recOf s hs).1, congrArg Option.isSome hu⟩

theorem find_none_of_unknown (k : Key) (hu : ∀ i, cfg.mkKey i = k → ¬ m.known i) : st.find cfg k = none := by
  cases hf : st.find cfg k with
  | none => rfl
  | some s =>
    obtain ⟨hk, hr, hun⟩ := find_known h hf
    exact absurd ⟨_, hr, hun, rfl⟩ (hu s.id hk)

theorem find_of_alive (hw : cfg.WF) {r : Rec} (hr : m.recs i = some r) (ha : r.alive cfg st.now) :
    ∃ s, st.find cfg (cfg.mkKey i) = some s ∧ s.repr = r := by
  obtain ⟨s, hs, rfl, rfl⟩ := h.alive_mem hr ha
  obtain ⟨_, hc, hst⟩ := h.recOf s hs
  have hh : hit cfg (cfg.mkKey s.id) s = true := hit_iff.mpr ⟨rfl, ((alive_iff hc hst).mp ha).2⟩
  cases hf : st.find cfg (cfg.mkKey s.id) with
  | none => exact absurd hh (List.find?_eq_none.mp hf s hs)
  | some s0 =>
    obtain ⟨hs0, hk0, _⟩ := find_some hf
    obtain rfl := Keyed.eq_of_nodup_map h.nodup hs0 hs (hw _ _ hk0)
    exact ⟨_, rfl, rfl⟩

end

theorem gone_iff : m.gone i ↔ ∃ r, m.recs i = some r ∧ (r.unsub = true ∨ r.ended = true) := by
  unfold Mon.gone
  cases m.recs i with
  | none => exact ⟨False.elim, fun ⟨_, h, _⟩ => nomatch h⟩
  | some r => exact ⟨fun h => ⟨r, rfl, h⟩, fun ⟨_, h, hg⟩ => Option.some.inj h ▸ hg⟩

theorem gone_not_known (h : m.gone i) : ¬ m.known i := by
  obtain ⟨r, hr, hg⟩ := gone_iff.mp h
  rintro ⟨r', hr', hu, he⟩
  obtain rfl := Option.some.inj (hr.symm.trans hr')
  rcases hg with hg | hg
  · exact Bool.noConfusion (hu.symm.trans hg)
  · exact Bool.noConfusion (he.symm.trans hg)

/-- The monitor never brings a gone subscription back by itself: every update keeps or sets `unsub` and `ended`,
    except that the answer to an accepted Subscribe overwrites the record of the id it names. -/
theorem Mon.gone_step (cfg : Cfg) (m : Mon) (op : Op) (out : Out) (hg : m.gone i)
    (hi : ∀ nt et f d e nr er g, op = .subscribe nt et (some f) d e nr er → out ≠ .subscribed i g) :
    (m.step cfg op out).gone i := by
  obtain ⟨r, hr, hg⟩ := gone_iff.mp hg
  rw [gone_iff]
  unfold Mon.step
  split
  · next nt et f d e nr er j g =>
    exact ⟨r, (if_neg fun (hj : i = j) => hi nt et f d e nr er g rfl (hj ▸ rfl)).trans hr, hg⟩
  · next k _ _ =>
    by_cases hk : cfg.mkKey i = k
    · exact ⟨_, (if_pos hk).trans (congrArg (Option.map _) hr), hg⟩
    · exact ⟨r, (if_neg hk).trans hr, hg⟩
  · next k =>
    by_cases hk : cfg.mkKey i = k
    · exact ⟨_, (if_pos hk).trans (congrArg (Option.map _) hr), Or.inl rfl⟩
    · exact ⟨r, (if_neg hk).trans hr, hg⟩
  · refine ⟨_, congrArg (Option.map _) hr, ?_⟩
    split <;> exact hg
  · exact ⟨_, congrArg (Option.map _) hr, Or.inr rfl⟩
  · exact ⟨r, hr, hg⟩
  · exact ⟨r, hr, hg⟩

/-- Along a run the invariant is kept, and what is gone stays gone: the manager never answers an accepted Subscribe
    with an id the monitor already has a record of. -/
theorem sim_runBoth (hw : cfg.WF) (ops : List Op) :
    ∀ (st : State) (m : Mon), Sim cfg st m →
      Sim cfg (runBoth cfg (st, m) ops).1 (runBoth cfg (st, m) ops).2 ∧
        ∀ i, m.gone i → (runBoth cfg (st, m) ops).2.gone i := by
  induction ops with
  | nil => exact fun _ _ h => ⟨h, fun _ hg => hg⟩
  | cons op ops ih =>
    intro st m h
    obtain ⟨hs, hgone⟩ := ih _ _ (sim_step h hw op)
    refine ⟨hs, fun i hg => hgone i (Mon.gone_step cfg m op _ hg fun nt et f d e nr er g hop ho => ?_)⟩
    obtain ⟨r, hr, _⟩ := gone_iff.mp hg
    subst hop
    rw [(subscribed_eq ho).1] at hr
    exact nomatch (h.fresh _ (Nat.le_refl _)).symm.trans hr

theorem sim_reach (hw : cfg.WF) (ops : List Op) : Sim cfg (reach cfg ops).1 (reach cfg ops).2 :=
  (sim_runBoth hw ops _ _ (sim_init cfg)).1

theorem runBoth_append (cfg : Cfg) (ops1 ops2 : List Op) :
    ∀ sm : State × Mon, runBoth cfg sm (ops1 ++ ops2) = runBoth cfg (runBoth cfg sm ops1) ops2 := by
  induction ops1 with
  | nil => exact fun _ => rfl
  | cons op ops ih => exact fun _ => ih _

theorem reach_append (cfg : Cfg) (ops1 ops2 : List Op) :
    reach cfg (ops1 ++ ops2) = runBoth cfg (reach cfg ops1) ops2 := runBoth_append cfg ops1 ops2 _

theorem reach_snoc (cfg : Cfg) (ops : List Op) (op : Op) :
    reach cfg (ops ++ [op]) =
      ((step cfg (reach cfg ops).1 op).1, (reach cfg ops).2.step cfg op (step cfg (reach cfg ops).1 op).2) := by
  rw [reach_append]; rfl

end Sdc.Eventing
