import SdcModel.Proofs.MdibLink
import SdcModel.Proofs.MdibResultFinal
/-!
# descriptor transactions satisfy the consumer contract (under `TxLinkOK`)

Statement vocabulary defined here: `TxLinkOK`, `DLinkOK` (hypothesis of `C01.provider_reports_describe_descriptor_partial`, part of
`C01.LinkOK`).
-/
namespace Sdc.Mdib
open Sdc.Consumer

/-- what the consumer contract needs of the transaction the script collected: subtrees are removed bottom-up with one
    `remove_descriptor` per descriptor, updated descriptors keep parent / source mds, `write_entity` deletes no context state -/
def TxLinkOK (t : Mdib.Tables) (tx : DTx) : Prop :=
  DeletesFlatFrom t [] tx.descr ∧ KeepsParent tx ∧ ∀ p ∈ tx.cItems, p.2.new ≠ none
instance (t : Mdib.Tables) (tx : DTx) : Decidable (TxLinkOK t tx) := by unfold TxLinkOK; infer_instance

theorem delOld_eq_some {p : Handle × DItem} {d : Descr} : delOld p = some d ↔ p.2 = ⟨some d, none⟩ := by
  obtain ⟨k, old, new⟩ := p
  cases new <;> simp [delOld]

theorem isDelItem_iff {p : Handle × DItem} : isDelItem p = true ↔ ∃ d, delOld p = some d := by
  obtain ⟨k, old, new⟩ := p
  cases old <;> cases new <;> simp [isDelItem, delOld]

theorem flatDeletes_nondel (p : Core) : ∀ (A before B : List DescrPart), (∀ a ∈ A, a.mod ≠ .delete) →
    flatDeletes p before (A ++ B) = flatDeletes p (before ++ A) B := by
  intro A
  induction A with
  | nil => intro before B _; rw [List.nil_append, List.append_nil]
  | cons a A ih =>
    intro before B hA
    have ha : (a.mod != ModType.delete) = true := bne_iff_ne.2 (hA a List.mem_cons_self)
    rw [List.cons_append, flatDeletes, ha, Bool.true_or, Bool.true_and, ih (before ++ [a]) B (fun x hx => hA x (List.mem_cons_of_mem _ hx)),
      List.append_assoc, List.singleton_append]

theorem flatDeletes_items {t : Mdib.Tables} (r : TxResult) (q : Nat) (i : Option Nat) (UC : List DescrPart)
    (all : List (Handle × DItem))
    (hold : ∀ p ∈ all, ∀ (d : Descr), delOld p = some d → d.handle = p.1)
    (hpar : ∀ p ∈ all, isDelItem p = true → ∀ b ∈ UC, b.descr.parent ≠ some p.1) :
    ∀ (items pre : List (Handle × DItem)), DeletesFlatFrom t pre items → (∀ p ∈ pre ++ items, p ∈ all) →
      flatDeletes (absCore t q i) (UC ++ ((pre.filterMap delOld).map (mkDPart r .delete)).map DPart.flat)
        (((items.filterMap delOld).map (mkDPart r .delete)).map DPart.flat) = true := by
  intro items
  induction items with
  | nil => intro pre _ _; rfl
  | cons p rest ih =>
    intro pre hfl hsub
    have hp : p ∈ all := hsub p (by simp)
    have ih' := ih (pre ++ [p]) hfl.2 (fun x hx => hsub x (by simpa using hx))
    rw [List.filterMap_append, List.filterMap_cons, List.filterMap_nil] at ih'
    rw [List.filterMap_cons]
    cases hd : delOld p with
    | none => simpa only [hd, List.append_nil] using ih'
    | some d =>
      have hisdel : isDelItem p = true := isDelItem_iff.2 ⟨d, hd⟩
      have hdh : d.handle = p.1 := hold p hp d hd
      simp only [hd, List.map_append, List.map_cons, List.map_nil, ← List.append_assoc] at ih'
      simp only [List.map_cons, flatDeletes, ih', Bool.and_true, Bool.or_eq_true, Bool.and_eq_true, List.all_eq_true, bne_iff_ne, ne_eq,
        List.any_eq_true, beq_iff_eq]
      refine .inr ⟨fun x hx => ?_, fun b hb => ?_⟩
      · -- a child `x` of `d` in `t`: removed by an earlier item `q'`, whose part is among those before
        by_cases hxp : x.parent = some d.handle
        · obtain ⟨q', hq', hqd, hqk⟩ := hfl.1 hisdel x hx (hdh ▸ hxp)
          obtain ⟨d', hdo⟩ := isDelItem_iff.1 hqd
          refine .inr ⟨(mkDPart r .delete d').flat, List.mem_append_right _ ?_, rfl, ?_⟩
          · exact List.mem_map_of_mem (List.mem_map_of_mem (List.mem_filterMap.2 ⟨q', hq', hdo⟩))
          · exact (hold q' (hsub q' (List.mem_append_left _ hq')) d' hdo).trans hqk
        · exact .inl hxp
      · rcases List.mem_append.1 hb with hb | hb
        · rcases List.mem_append.1 hb with hb | hb
          · exact .inr (hdh ▸ hpar p hp hisdel b hb)
          · obtain ⟨_, hb', rfl⟩ := List.mem_map.1 hb
            obtain ⟨_, _, rfl⟩ := List.mem_map.1 hb'; exact .inl rfl
        · obtain ⟨_, hb', rfl⟩ := List.mem_map.1 hb
          obtain ⟨_, _, rfl⟩ := List.mem_map.1 hb'; exact .inl rfl

theorem pfacts_of_commit {t : Mdib.Tables} {tx : DTx} {del : List Handle} {c : DCommit} (hw : WF t) (hi : DTxOK t tx)
    (hs : DStatic t tx del) (hl : TxLinkOK t tx) (hne : tx.descr ≠ [])
    (h1 : CInv t tx del [] (pendUpd []) c.t c.tx) (r1 : RInv t tx del [] c.t c.res)
    (x1 : RExt t tx tx.descr c.t c.res) (hver : (commitStates c).1.t.ver = t.ver + 1)
    (D : DResultOK t (commitStates c).1.t (commitStates c).1.res) : PFacts t (commitStates c).1.t (commitStates c).1.res := by
  obtain ⟨_, hwf', _, R⟩ := commitStates_ok h1
  have hS : c.res.allS = [] := by
    obtain ⟨a, b, c', d, e, _⟩ := r1.sl
    simp only [TxResult.allS, a, b, c', d, e, List.append_nil]
  obtain ⟨_, _, _, _, ⟨f1, f2, f3⟩, s6, s7⟩ := commitStates_res h1 hS r1.sl.2.2.2.2.2
  have S := h1.seen
  have hnd := h1.ciNoDel hl.2.2
  generalize (commitStates c).1.t = T' at *
  generalize (commitStates c).1.res = R' at *
  have fD : ∀ k, findD T' k = findD c.t k := fun k => congrArg (List.find? _) R.descrs
  have hdelH : ∀ k ∈ del, k ∈ t.descrs.map (·.handle) := fun k hk' => by
    obtain ⟨d, hd, e⟩ := hs.delSub k hk'; exact e ▸ List.mem_map_of_mem hd
  have hcreN : ∀ d ∈ c.res.descrCreated, d.handle ∉ t.descrs.map (·.handle) := fun d hd => created_not_in_t0 hi (r1.cre d hd).2
  have hdold : ∀ (p : Handle × DItem), p ∈ tx.descr → ∀ d, delOld p = some d → d.handle = p.1 := by
    intro p hp d hd
    have := hi.dOld p hp
    rw [delOld_eq_some.1 hd] at this
    exact (findD_some this.symm).1
  have hDeq : c.res.descrDeleted = tx.descr.filterMap delOld := x1.delEq
  -- the descriptor items left the state of a state item as it was before the transaction
  have sOld : ∀ p ∈ c.tx.sItems, findS c.t p.1 = findS t p.1 := fun p hp => by
    cases hf : findS c.t p.1 with
    | none => exact (h1.siOld0 p hp ((h1.si p hp).old.trans hf)).symm
    | some o => exact (S.sSame _ o hf).symm
  have cOld : ∀ p ∈ c.tx.cItems, findC c.t p.1 = findC t p.1 := fun p hp => by
    cases hf : findC c.t p.1 with
    | none => exact (h1.ciOld0 p hp ((h1.ci p hp).old.trans hf)).symm
    | some o => exact (S.cSame _ o hf).symm
  have cRemoved : ∀ x ∈ t.ctx, (findC T' x.h).isSome ∨ x.dh ∈ R'.descrDeleted.map (·.handle) := fun x hx =>
    (x1.cGone x.h x (hw.findC_of_mem hx)).imp (R.keepC hnd x.h x) (f3 ▸ id)
  have cStable : ∀ x ∈ T'.ctx, ∀ old, findC t x.h = some old → old.dh = x.dh := by
    intro x hx old ho
    rcases R.srcC x.h x (hwf'.findC_of_mem hx) with hcb | ⟨p, hp, e, hn⟩
    · rw [S.cSame x.h x hcb] at ho; cases ho; rfl
    · exact ((h1.ci p hp).new x hn).2.2.1 old ((h1.ci p hp).old.trans ((cOld p hp).trans (e ▸ ho)))
  have cComplete : ∀ x ∈ T'.ctx, findC t x.h = some x ∨ x ∈ R'.ctx := fun x hx =>
    reported_of_changed D.ctx D.completeC (hwf'.findC_of_mem hx)
  have updFacts : ∀ d ∈ c.res.descrUpdated, findD T' d.handle = some d ∧ ∃ old, findD t d.handle = some old ∧
      old.parent = d.parent ∧ old.mds = d.mds ∧ old.ver < d.ver := by
    intro d hd
    have hfd := x1.updEq d hd
    obtain ⟨d0, hd0, e0⟩ := List.mem_map.1 (x1.updIn d hd)
    obtain ⟨a, _, b⟩ := h1.dOld d (findD_some hfd).2 d0 hd0 e0
    exact ⟨(fD _).trans hfd, d0, e0 ▸ hw.findD_of_mem hd0, a, b, x1.updV d hd d0 hd0 e0⟩
  have changed : ∀ k, findD T' k ≠ findD t k →
      (∃ x ∈ R'.descrUpdated ++ R'.descrCreated, x.handle = k ∧ findD T' k = some x) ∨
      (k ∈ R'.descrDeleted.map (·.handle) ∧ findD T' k = none) := by
    intro k hk
    have := D.completeD k hk
    simp only [List.map_append, List.mem_append, List.mem_map] at this
    rcases this with (⟨x, hx, e⟩ | ⟨x, hx, e⟩) | ⟨x, hx, e⟩
    · exact .inl ⟨x, List.mem_append_right _ hx, e, e ▸ D.created x hx⟩
    · exact .inl ⟨x, List.mem_append_left _ hx, e, e ▸ (updFacts x (f2 ▸ hx)).1⟩
    · exact .inr ⟨List.mem_map.2 ⟨x, hx, e⟩, e ▸ D.deleted x hx⟩
  exact {
    ver := by omega
    wf := hw
    wf' := hwf'
    some_ := by
      have := x1.ne hne
      rw [f1, f2, f3]
      by_cases a : c.res.descrUpdated = []
      · by_cases b : c.res.descrCreated = []
        · exact .inr (.inr (.inr (.inr (by simpa only [a, b, List.nil_append] using this))))
        · exact .inr (.inr (.inr (.inl b)))
      · exact .inr (.inr (.inl a))
    partsDistinct := by
      rw [f1, f2, f3, List.map_append, List.map_append, List.nodup_append, List.nodup_append]
      refine ⟨⟨x1.nodupU, x1.nodupC, ?_⟩, hDeq ▸ (filterMap_keys_sublist tx.descr hdold).nodup hi.dKeys, ?_⟩
      · intro a ha b hb e
        obtain ⟨u, hu, rfl⟩ := List.mem_map.1 ha
        obtain ⟨cr, hcr, rfl⟩ := List.mem_map.1 hb
        exact hcreN cr hcr (e ▸ x1.updIn u hu)
      · intro a ha b hb e
        obtain ⟨dl, hdl, rfl⟩ := List.mem_map.1 hb
        have hbd := (r1.delr dl hdl).2
        rcases List.mem_append.1 ha with ha | ha
        · obtain ⟨u, hu, rfl⟩ := List.mem_map.1 ha; exact (r1.upd u hu).2.1 (e ▸ hbd)
        · obtain ⟨cr, hcr, rfl⟩ := List.mem_map.1 ha; exact hcreN cr hcr (e ▸ hdelH _ hbd)
    created := fun d hd => ⟨(find_none_iff (fun d : Descr => d.handle)).2 (hcreN d (f1 ▸ hd)), D.created d hd⟩
    updated := fun d hd => by
      obtain ⟨a, old, b, c1, c2, _⟩ := updFacts d (f2 ▸ hd)
      exact ⟨old, b, c1, c2, a⟩
    deleted := fun d hd => by
      obtain ⟨d0, hd0, e⟩ := hs.delSub _ (r1.delr d (f3 ▸ hd)).2
      exact ⟨by rw [← e, hw.findD_of_mem hd0]; rfl, D.deleted d hd⟩
    descrComplete := fun d hd => by
      have hd' := hwf'.findD_of_mem hd
      by_cases e : findD t d.handle = some d
      · exact .inl e
      · rcases changed d.handle (hd' ▸ fun e' => e e'.symm) with ⟨x, hx, ex, _⟩ | ⟨_, hn⟩
        · exact .inr (ex ▸ List.mem_map_of_mem hx)
        · rw [hd'] at hn; cases hn
    descrRemoved := fun d hd => by
      cases hf : findD T' d.handle with
      | some _ => exact .inl rfl
      | none =>
        rcases changed d.handle (by rw [hf, hw.findD_of_mem hd]; exact (Option.some_ne_none _).symm) with ⟨x, _, _, hx⟩ | ⟨hm, _⟩
        · rw [hf] at hx; cases hx
        · exact .inr hm
    flat := fun q i => by
      -- no updated or created descriptor hangs below a removed one
      have hUCpar : ∀ (p : Handle × DItem), p ∈ tx.descr → isDelItem p = true →
          ∀ b ∈ (c.res.descrUpdated.map (mkDPart R' .update) ++ c.res.descrCreated.map (mkDPart R' .create)).map DPart.flat,
            b.descr.parent ≠ some p.1 := by
        intro p hp hpd b hb hpar
        obtain ⟨o, ho⟩ := isDelItem_iff.1 hpd
        have hroot : p.1 ∈ del := hs.delRoot p hp o (delOld_eq_some.1 ho)
        have key : ∀ x ∈ c.t.descrs, x.handle ∉ del → x.parent ≠ some p.1 :=
          fun x hx hnd' e => h1.dUp x hx hnd' p.1 e hroot
        obtain ⟨b', hb', rfl⟩ := List.mem_map.1 hb
        rcases List.mem_append.1 hb' with hb' | hb'
        · obtain ⟨u, hu, rfl⟩ := List.mem_map.1 hb'
          exact key u (findD_some (x1.updEq u hu)).2 (r1.upd u hu).2.1 hpar
        · obtain ⟨cr, hcr, rfl⟩ := List.mem_map.1 hb'
          exact key cr (findD_some (r1.cre cr hcr).1).2 (fun hd' => hcreN cr hcr (hdelH _ hd')) hpar
      have := flatDeletes_items (t := t) R' q i _ tx.descr hdold hUCpar tx.descr [] hl.1 (fun p hp => hp)
      rw [List.filterMap_nil, List.map_nil, List.map_nil, List.append_nil] at this
      rw [resParts, f1, f2, f3, hDeq, List.map_append, flatDeletes_nondel _ _ [] _ ?_, List.nil_append]
      · exact this
      · intro a ha
        obtain ⟨b', hb', rfl⟩ := List.mem_map.1 ha
        rcases List.mem_append.1 hb' with hb' | hb' <;> obtain ⟨_, _, rfl⟩ := List.mem_map.1 hb' <;> exact ModType.noConfusion
    stateSound := D.states
    stateNewer := fun x hx old ho => by
      obtain ⟨p, hp, rfl⟩ := s6 x hx
      rw [(h1.si p hp).dh] at ho
      exact (h1.si p hp).bump.1 old ((sOld p hp).trans ho)
    stateComplete := fun x hx => reported_of_changed D.states D.completeS (hwf'.findS_of_mem hx)
    stateRemoved := fun x hx =>
      (x1.sGone x.dh x (hw.findS_of_mem hx)).imp
        (fun hsome => by obtain ⟨b, hb, _⟩ := R.chgS x.dh x hsome; rw [hb]; rfl) (f3 ▸ id)
    cstateSound := D.ctx
    cstateNewer := fun x hx old ho => by
      obtain ⟨p, hp, hn⟩ := s7 x hx
      obtain ⟨hh, _, _, hb, _⟩ := (h1.ci p hp).new x hn
      exact hb.1 old ((cOld p hp).trans (hh ▸ ho))
    cstateComplete := cComplete
    cstateRemoved := cRemoved
    cstateStable := cStable
    ctxUpdateLists := fun d hd hkind x hx hxd => by
      obtain ⟨hfd, old, hfo, _, _, hlt⟩ := updFacts d (f2 ▸ hd)
      -- a context state of `d` in the new tables is reported: its DescriptorVersion changed
      have hnew : ∀ y ∈ T'.ctx, y.dh = d.handle → y ∈ R'.ctx := by
        intro y hy hyd
        refine (cComplete y hy).resolve_left fun hsame => ?_
        obtain ⟨d1, hd1, e1, v1⟩ := hw.cRef y (findC_some hsame).2
        obtain ⟨d2, hd2, e2, v2⟩ := hwf'.cRef y hy
        have a1 := hw.findD_of_mem hd1
        have a2 := hwf'.findD_of_mem hd2
        rw [e1, hyd, hfo] at a1; rw [e2, hyd, hfd] at a2
        cases a1; cases a2
        omega
      rcases List.mem_append.1 hx with hx | hx
      · rcases cRemoved x hx with hsome | hdel
        · obtain ⟨y, hf⟩ := Option.isSome_iff_exists.1 hsome
          obtain ⟨ey, hy⟩ := findC_some hf
          have hyd : y.dh = d.handle := (cStable y hy x (ey ▸ hw.findC_of_mem hx)).symm.trans hxd
          exact ⟨y, hnew y hy hyd, ey, hyd⟩
        · obtain ⟨dl, hdl, e⟩ := List.mem_map.1 hdel
          have := (r1.delr dl (f3 ▸ hdl)).1
          rw [e, hxd, ← fD, hfd] at this; cases this
      · exact ⟨x, hnew x hx hxd, rfl, hxd⟩ }

/-- the transaction the script collects satisfies `TxLinkOK` (decidable: the calls are run against the tables) -/
def DLinkOK (t : Mdib.Tables) (s : DScript) : Prop :=
  match runCalls (dCall t) s.catchErrors { newVer := t.ver + 1 } s.calls with
  | .ok tx => TxLinkOK t tx
  | .error _ => True

instance (t : Mdib.Tables) (s : DScript) : Decidable (DLinkOK t s) := by
  unfold DLinkOK; split <;> infer_instance

theorem pfacts_descriptor {t t' : Mdib.Tables} {r : TxResult} (hw : WF t) (hk : KOK t) (s : DScript) (hs : DScriptOK t s)
    (hl : DLinkOK t s) (h : runD t s = (t', r, .committed)) : PFacts t t' r := by
  have D := runD_result hw hk s hs h
  obtain ⟨tx, htx, hne, hnf, rfl, rfl⟩ := runD_committed h
  unfold DLinkOK at hl
  rw [htx] at hl
  have hi := dCalls_ok hw hk hs htx
  obtain ⟨c, hc, hcons, hst, h1, r1, x1⟩ := commitD_inv hw hk hi hne hnf
  have hver := commitD_ver t tx hne hcons
  rw [hc] at hver D ⊢
  exact pfacts_of_commit hw hi hst hl (fun e => by rw [e] at hne; cases hne) h1 r1 (x1 hl.2.1 hl.1) hver D

end Sdc.Mdib
