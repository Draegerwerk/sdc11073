import SdcModel.Proofs.MdibDFinal
/-!
# histories of transactions of all seven kinds
-/
set_option linter.unusedSimpArgs false
namespace Sdc.Mdib

/-- the script stays inside what the real API can be asked to do (see `SKindOK`, `DScriptOK`); `fresh`: the handles generated
    for new context states are unused -/
def StepOK (fresh : Bool) (t : Tables) : Script → Prop
  | .s x => SKindOK t x
  | .c x => fresh = true → FreshUuids t x
  | .d x => DScriptOK t x

instance (fresh : Bool) (t : Tables) (sc : Script) : Decidable (StepOK fresh t sc) := by
  cases sc <;> (unfold StepOK; infer_instance)

def HistOK (fresh : Bool) : Tables → List Script → Prop
  | _, [] => True
  | t, sc :: rest => StepOK fresh t sc ∧ HistOK fresh (runScript t sc).1 rest

instance (fresh : Bool) : ∀ (t : Tables) (h : List Script), Decidable (HistOK fresh t h)
  | _, [] => isTrue trivial
  | t, sc :: rest =>
    have := instDecidableHistOK fresh (runScript t sc).1 rest
    by unfold HistOK; infer_instance

theorem runScript_wfk {fresh : Bool} {t : Tables} (hw : WF t) (hk : KOK t) (sc : Script) (h : StepOK fresh t sc) :
    WF (runScript t sc).1 ∧ KOK (runScript t sc).1 := by
  cases sc with
  | s x => exact ⟨(runS_ok hw x).2, runS_kok hw hk x h⟩
  | c x => exact ⟨runC_wf hw x, runC_kok hw hk x⟩
  | d x => exact (runD_ok hw hk x h).2

theorem runHist_wfk {fresh : Bool} : ∀ (hist : List Script) (t : Tables), WF t → KOK t → HistOK fresh t hist →
    WF (runHist t hist) ∧ KOK (runHist t hist) := by
  intro hist
  induction hist with
  | nil => intro t hw hk _; exact ⟨hw, hk⟩
  | cons sc rest ih =>
    intro t hw hk h
    obtain ⟨a, b⟩ := runScript_wfk hw hk sc h.1
    exact ih _ a b h.2

def Script.isSC : Script → Bool
  | .d _ => false
  | _ => true

theorem runHist_wf_sc : ∀ (hist : List Script) (t : Tables), WF t → (∀ sc ∈ hist, sc.isSC = true) → WF (runHist t hist) := by
  intro hist
  induction hist with
  | nil => intro t hw _; exact hw
  | cons sc rest ih =>
    intro t hw h
    have h0 := h sc (by simp)
    refine ih _ ?_ (fun x hx => h x (by simp [hx]))
    cases sc with
    | s x => exact (runS_ok hw x).2
    | c x => exact runC_wf hw x
    | d x => cases h0

theorem runScript_atomic {t : Tables} (hw : WF t) (hk : KOK t) (sc : Script) (h : StepOK true t sc) :
    (runScript t sc).2.2 = .commitFailed → (runScript t sc).1 = t := by
  cases sc with
  | s x => intro hf; exact absurd hf (runS_ok hw x).1
  | c x => intro hf; exact absurd hf (runC_ok hw x (h rfl))
  | d x => exact (runD_ok hw hk x h).1

/-- MdibVersion and result by outcome: a committed transaction has taken exactly the next version; an empty, aborted or
    rejected one returns the tables it started from and reports nothing -/
def OutcomeOK (t : Tables) (r : Tables × TxResult × Outcome) : Prop :=
  (r.2.2 = .committed → r.1.ver = t.ver + 1) ∧
  ((r.2.2 = .empty ∨ r.2.2 = .aborted ∨ r.2.2 = .rejected) → r.1 = t ∧ r.2.1 = {})

theorem OutcomeOK.same {t : Tables} {o : Outcome} (h : o ≠ .committed) : OutcomeOK t (t, {}, o) :=
  ⟨fun e => absurd e h, fun _ => ⟨rfl, rfl⟩⟩

theorem OutcomeOK.failed (t t' : Tables) (r : TxResult) : OutcomeOK t (t', r, .commitFailed) :=
  ⟨nofun, fun h => by rcases h with h | h | h <;> cases h⟩

theorem OutcomeOK.commit {t : Tables} {r : Tables × TxResult × Option Err} {emp : Bool} (hE : emp = true → r = (t, {}, none))
    (hV : emp = false → r.1.ver = t.ver + 1) : OutcomeOK t (r.1, r.2.1, if emp then .empty else .committed) := by
  cases emp with
  | true => rw [hE rfl]; exact OutcomeOK.same nofun
  | false => exact ⟨fun _ => hV rfl, fun h => by rcases h with h | h | h <;> cases h⟩

theorem runScript_outcome (t : Tables) (sc : Script) : OutcomeOK t (runScript t sc) := by
  cases sc with
  | s x =>
    exact runS_cases (P := OutcomeOK t) (.same nofun) (fun _ => .same nofun) (fun _ _ _ _ _ => .failed ..)
      (fun _ _ _ _ => .commit commitS_empty fun h => (congrArg (·.1.ver) (commitS_of_ne h)).trans (applySItems_ver _ _))
  | c x =>
    exact runC_cases (P := OutcomeOK t) (.same nofun) (fun _ => .same nofun) (fun _ _ _ _ _ => .failed ..)
      (fun _ _ _ _ => .commit commitC_empty fun h => (congrArg (·.1.ver) (commitC_of_ne h)).trans (applyCItems_ver _ _))
  | d x =>
    exact runD_elim (P := OutcomeOK t) (.same nofun) (.same nofun) (fun _ _ _ _ => .failed ..)
      (fun _ _ he => .commit commitD_empty (fun h => commitD_ver_of_ok h he))

theorem runScript_unchanged (t : Tables) (sc : Script)
    (h : (runScript t sc).2.2 = .empty ∨ (runScript t sc).2.2 = .aborted ∨ (runScript t sc).2.2 = .rejected) :
    (runScript t sc).1 = t := ((runScript_outcome t sc).2 h).1

theorem runScript_mono {t : Tables} (hw : WF t) (hk : KOK t) (sc : Script) (h : StepOK true t sc) : DMono t (runScript t sc).1 := by
  cases sc with
  | s x =>
    show DMono t (runS t x).1
    obtain ⟨a, b, c, d⟩ := runS_frame t x
    have fD : ∀ k, findD (runS t x).1 k = findD t k := fun k => by simp [findD, a]
    have fC : ∀ k, findC (runS t x).1 k = findC t k := fun k => by simp [findC, b]
    refine ⟨fun k => by rw [seenD_congr a c]; exact optLe_refl _, runS_seenS hw x, fun k => by rw [seenC_congr b d]; exact optLe_refl _,
      ?_, fun k a' b' => runS_change hw x, ?_⟩
    · intro k a' b' ha hb; rw [fD] at hb; exact .inl (Option.some.inj (ha.symm.trans hb))
    · intro k a' b' ha hb; rw [fC] at hb; exact .inl (Option.some.inj (ha.symm.trans hb))
  | c x =>
    show DMono t (runC t x).1
    obtain ⟨a, b, c, d⟩ := runC_frame t x
    have fD : ∀ k, findD (runC t x).1 k = findD t k := fun k => by simp [findD, a]
    have fS : ∀ k, findS (runC t x).1 k = findS t k := fun k => by simp [findS, b]
    refine ⟨fun k => by rw [seenD_congr a c]; exact optLe_refl _, fun k => by rw [seenS_congr b d]; exact optLe_refl _,
      runC_seenC hw x (h rfl), ?_, ?_, fun k a' b' => runC_change hw x (h rfl)⟩
    · intro k a' b' ha hb; rw [fD] at hb; exact .inl (Option.some.inj (ha.symm.trans hb))
    · intro k a' b' ha hb; rw [fS] at hb; exact .inl (Option.some.inj (ha.symm.trans hb))
  | d x => exact runD_mono hw hk x h

def SeenLe (t t' : Tables) : Prop := ∀ h, seenD t h ≤ seenD t' h ∧ seenS t h ≤ seenS t' h ∧ seenC t h ≤ seenC t' h

theorem runHist_seen : ∀ (hist : List Script) (t : Tables), WF t → KOK t → HistOK true t hist → SeenLe t (runHist t hist) := by
  intro hist
  induction hist with
  | nil => intro t _ _ _ h; exact ⟨optLe_refl _, optLe_refl _, optLe_refl _⟩
  | cons sc rest ih =>
    intro t hw hk h k
    obtain ⟨a, b⟩ := runScript_wfk hw hk sc h.1
    have m := runScript_mono hw hk sc h.1
    obtain ⟨x, y, z⟩ := ih _ a b h.2 k
    exact ⟨optLe_trans (m.seenD k) x, optLe_trans (m.seenS k) y, optLe_trans (m.seenC k) z⟩

end Sdc.Mdib
