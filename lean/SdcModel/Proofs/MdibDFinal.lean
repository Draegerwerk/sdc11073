import SdcModel.Proofs.MdibDItems
import SdcModel.Proofs.MdibWFm
/-!
# the state part of a descriptor commit; a descriptor commit over well-formed tables never dies half-way, leaves well-formed
tables and no version counter goes down
-/
set_option linter.unusedSimpArgs false
namespace Sdc.Mdib

variable {t₀ : Tables} {tx₀ : DTx} {del : List Handle}

/-- a stage of the commit that writes only single states (items from `L`) -/
structure SRelS (L : List (Handle × SItem)) (T T' : Tables) : Prop where
  fr : FrS T' T
  seen : ∀ h, seenS T h ≤ seenS T' h
  chg : ∀ h a, findS T h = some a → ∃ b, findS T' h = some b ∧ (a = b ∨ a.sv < b.sv)
  src : ∀ h b, findS T' h = some b → findS T h = some b ∨ h ∈ L.map (·.1)

theorem SRelS.refl (L : List (Handle × SItem)) (T : Tables) : SRelS L T T :=
  ⟨⟨rfl, rfl, rfl, rfl⟩, fun _ => optLe_refl _, fun _ a h => ⟨a, h, .inl rfl⟩, fun _ _ h => .inl h⟩

theorem SRelS.trans {L : List (Handle × SItem)} {A B C : Tables} (h1 : SRelS L A B) (h2 : SRelS L B C) : SRelS L A C := by
  refine ⟨h2.fr.trans h1.fr, fun h => optLe_trans (h1.seen h) (h2.seen h), ?_, ?_⟩
  · intro h a ha
    obtain ⟨b, hb, r1⟩ := h1.chg h a ha
    obtain ⟨c, hc, r2⟩ := h2.chg h b hb
    refine ⟨c, hc, ?_⟩
    rcases r1 with rfl | r1
    · exact r2
    · rcases r2 with rfl | r2
      · exact .inr r1
      · exact .inr (Nat.lt_trans r1 r2)
  · intro h c hc
    rcases h2.src h c hc with hb | hk
    · exact h1.src h c hb
    · exact .inr hk

theorem SRelS.of_apply {L M : List (Handle × SItem)} {T : Tables} (hi : SItemsOK T M) (hsub : ∀ p ∈ M, p ∈ L) :
    SRelS L T (applySItems T M).1 := by
  refine ⟨applySItems_frame T M, applySItems_seenS hi, ?_, ?_⟩
  · intro h a ha
    rw [applySItems_findS hi]
    cases hg : dictGet M h with
    | none => exact ⟨a, ha, .inl rfl⟩
    | some it => exact ⟨it.new, rfl, .inr ((hi.bump (h, it) (dictGet_some_mem hg)).1 a ha)⟩
  · intro h b hb
    rw [applySItems_findS hi] at hb
    cases hg : dictGet M h with
    | none => rw [hg] at hb; exact .inl hb
    | some it => exact .inr (List.mem_map.2 ⟨(h, it), hsub _ (dictGet_some_mem hg), rfl⟩)

/-- the stage that writes the context states -/
structure SRelC (M : List (Handle × CItem)) (T T' : Tables) : Prop where
  fr : FrC T' T
  seen : ∀ h, seenC T h ≤ seenC T' h
  chg : ∀ h a b, findC T h = some a → findC T' h = some b → a = b ∨ a.sv < b.sv
  src : ∀ h b, findC T' h = some b → findC T h = some b ∨ ∃ p ∈ M, p.1 = h ∧ p.2.new = some b
  keep : (∀ p ∈ M, p.2.new ≠ none) → ∀ h a, findC T h = some a → (findC T' h).isSome

theorem SRelC.of_apply {M : List (Handle × CItem)} {T : Tables} (hi : CItemsOK true T M) : SRelC M T (applyCItems T M).1 := by
  refine ⟨applyCItems_frame T M, applyCItems_seenC hi, fun h a b ha hb => applyCItems_change hi ha hb, ?_, ?_⟩
  · intro h b hb
    rw [applyCItems_findC hi] at hb
    cases hg : dictGet M h with
    | none => rw [hg] at hb; exact .inl hb
    | some it => rw [hg] at hb; exact .inr ⟨(h, it), dictGet_some_mem hg, rfl, hb⟩
  · intro hnd h a ha
    rw [applyCItems_findC hi]
    cases hg : dictGet M h with
    | none => simp [ha]
    | some it =>
      simp only
      cases hn : it.new with
      | none => exact absurd hn (hnd _ (dictGet_some_mem hg))
      | some n => rfl

/-- state of the tables between two of the five single-state dicts: the items `L` whose kind is in `done` have been written;
    `C`: context states whose version link is still relaxed (their items are not written yet) -/
structure SB (L : List (Handle × SItem)) (done : List Kind) (C : Handle → Prop) (T : Tables) : Prop where
  wfm : WFm (fun x => ∃ p ∈ L, p.1 = x ∧ p.2.new.kind ∉ done) C T
  ok : SItemsOK T (L.filter (fun p => !done.contains p.2.new.kind))
  kinds : ∀ p ∈ L, p.2.new.kind ≠ .context ∧ ∀ d ∈ T.descrs, d.handle = p.1 → d.kind ≠ .context

theorem SB.kind {L : List (Handle × SItem)} {done : List Kind} {C : Handle → Prop} {c : DCommit} (hb : SB L done C c.t)
    (hL : c.tx.sItems = L) {k : Kind} (hk : k ∉ done) :
    (applyKind c k).2 = none ∧ SB L (k :: done) C (applyKind c k).1.t ∧ (applyKind c k).1.tx = c.tx ∧
      SRelS L c.t (applyKind c k).1.t := by
  have hfil : L.filter (fun p => p.2.new.kind == k) =
      (L.filter (fun p => !done.contains p.2.new.kind)).filter (fun p => p.2.new.kind == k) := by
    rw [List.filter_filter]
    apply List.filter_congr
    intro p _
    by_cases e : p.2.new.kind = k
    · subst e; simp [hk]
    · simp [e]
  have hrest : L.filter (fun p => !(k :: done).contains p.2.new.kind) =
      (L.filter (fun p => !done.contains p.2.new.kind)).filter (fun p => p.2.new.kind != k) := by
    rw [List.filter_filter]
    apply List.filter_congr
    intro p _
    simp only [List.contains_cons, Bool.not_or, bne, Bool.and_comm]
  have hik : SItemsOK c.t (L.filter (fun p => p.2.new.kind == k)) := by rw [hfil]; exact hb.ok.sub List.filter_sublist
  have hkk : ∀ p ∈ L.filter (fun p => p.2.new.kind == k),
      p.2.new.kind ≠ .context ∧ ∀ d ∈ c.t.descrs, d.handle = p.1 → d.kind ≠ .context :=
    fun p hp => hb.kinds p (List.mem_filter.1 hp).1
  have hfr := applySItems_frame c.t (L.filter (fun p => p.2.new.kind == k))
  simp only [applyKind, hL]
  refine ⟨applySItems_noerr hik, ⟨?_, ?_, ?_⟩, (by first | rfl | trivial),
    SRelS.of_apply hik (fun p hp => (List.mem_filter.1 hp).1)⟩
  · refine (applySItems_wfm hb.wfm hik hkk).mono ?_ (fun _ h => h)
    rintro x ⟨⟨p, hp, e, hnd⟩, hx⟩
    refine ⟨p, hp, e, ?_⟩
    simp only [List.mem_cons, not_or]
    refine ⟨fun ek => hx ?_, hnd⟩
    exact List.mem_map.2 ⟨p, List.mem_filter.2 ⟨hp, by simp [ek]⟩, e⟩
  · rw [hrest]
    refine (hb.ok.sub List.filter_sublist).after (by rw [hfil]; exact hb.ok.sub List.filter_sublist) ?_
    intro p hp hx
    obtain ⟨hp1, hp2⟩ := List.mem_filter.1 hp
    obtain ⟨q, hq, e⟩ := List.mem_map.1 hx
    rw [hfil] at hq
    obtain ⟨hq1, hq2⟩ := List.mem_filter.1 hq
    have hpq : q = p := by
      have a := dictGet_of_mem_nodup hb.ok.keys (show (q.1, q.2) ∈ _ from hq1)
      have b := dictGet_of_mem_nodup hb.ok.keys (show (p.1, p.2) ∈ _ from hp1)
      rw [e, b] at a
      exact Prod.ext e (Option.some.inj a).symm
    subst hpq
    simp only [bne_iff_ne, ne_eq, beq_iff_eq] at hp2 hq2
    exact hp2 hq2
  · intro p hp
    obtain ⟨a, b⟩ := hb.kinds p hp
    exact ⟨a, by rw [hfr.1]; exact b⟩

theorem SB.kindsAll {L : List (Handle × SItem)} {C : Handle → Prop} :
    ∀ (ks : List Kind) (done : List Kind) (c : DCommit), SB L done C c.t → c.tx.sItems = L → ks.Nodup → (∀ k ∈ ks, k ∉ done) →
      (applyKinds c ks).2 = none ∧ SB L (ks.reverse ++ done) C (applyKinds c ks).1.t ∧ (applyKinds c ks).1.tx = c.tx ∧
        SRelS L c.t (applyKinds c ks).1.t := by
  intro ks
  induction ks with
  | nil => intro done c hb _ _ _; exact ⟨rfl, by simpa [applyKinds] using hb, rfl, SRelS.refl _ _⟩
  | cons k ks ih =>
    intro done c hb hL hn hd
    simp only [List.nodup_cons] at hn
    obtain ⟨e1, b1, t1, f1⟩ := hb.kind hL (hd k (by simp))
    simp only [applyKinds]
    generalize applyKind c k = r at e1 b1 t1 f1
    obtain ⟨c1, e⟩ := r
    simp only at e1 b1 t1 f1; subst e1
    simp only
    obtain ⟨e2, b2, t2, f2⟩ := ih (k :: done) c1 b1 (t1 ▸ hL) hn.2 (by
      intro k' hk' hx
      rcases List.mem_cons.1 hx with rfl | hx
      · exact hn.1 hk'
      · exact hd k' (by simp [hk']) hx)
    refine ⟨e2, ?_, t2.trans t1, f1.trans f2⟩
    simpa [List.reverse_cons, List.append_assoc] using b2

theorem SB.ctx {L : List (Handle × SItem)} {done : List Kind} {C : Handle → Prop} {c : DCommit} (hb : SB L done C c.t)
    (hc : CItemsOK true c.t c.tx.cItems)
    (hck : ∀ p ∈ c.tx.cItems, ∀ n ∈ p.2.new, ∀ d ∈ c.t.descrs, d.handle = n.dh → d.kind = .context) :
    (applyCtx c).2 = none ∧ SB L done (fun x => C x ∧ x ∉ c.tx.cItems.map (·.1)) (applyCtx c).1.t ∧ (applyCtx c).1.tx = c.tx ∧
      SRelC c.tx.cItems c.t (applyCtx c).1.t := by
  have hfr := applyCItems_frame c.t c.tx.cItems
  simp only [applyCtx]
  refine ⟨applyCItems_noerr hc, ⟨applyCItems_wfm hb.wfm hc hck, hb.ok.congr hfr.2.1 hfr.2.2.2 hfr.1, ?_⟩, (by first | rfl | trivial),
    SRelC.of_apply hc⟩
  intro p hp
  obtain ⟨a, b⟩ := hb.kinds p hp
  exact ⟨a, by rw [hfr.1]; exact b⟩

/-- what the state part of the commit does to the tables: descriptors untouched, counters of the states only grow, a
    changed state has a larger version, a new state comes from an item of the transaction -/
structure CommitRel (X : DTx) (T T' : Tables) : Prop where
  descrs : T'.descrs = T.descrs
  dSaved : T'.dSaved = T.dSaved
  seenS : ∀ h, seenS T h ≤ seenS T' h
  seenC : ∀ h, seenC T h ≤ seenC T' h
  chgS : ∀ h a, findS T h = some a → ∃ b, findS T' h = some b ∧ (a = b ∨ a.sv < b.sv)
  srcS : ∀ h b, findS T' h = some b → findS T h = some b ∨ h ∈ X.sItems.map (·.1)
  chgC : ∀ h a b, findC T h = some a → findC T' h = some b → a = b ∨ a.sv < b.sv
  srcC : ∀ h b, findC T' h = some b → findC T h = some b ∨ ∃ p ∈ X.cItems, p.1 = h ∧ p.2.new = some b
  keepC : (∀ p ∈ X.cItems, p.2.new ≠ none) → ∀ h a, findC T h = some a → (findC T' h).isSome

theorem CommitRel.mk3 {X : DTx} {A B C D : Tables} (r1 : SRelS X.sItems A B) (r2 : SRelC X.cItems B C) (r3 : SRelS X.sItems C D) :
    CommitRel X A D := by
  have fSB : ∀ h, findS C h = findS B h := fun h => by simp [findS, r2.fr.2.1]
  have fCA : ∀ h, findC B h = findC A h := fun h => by simp [findC, r1.fr.2.1]
  have fCD : ∀ h, findC D h = findC C h := fun h => by simp [findC, r3.fr.2.1]
  refine ⟨r3.fr.1.trans (r2.fr.1.trans r1.fr.1), r3.fr.2.2.1.trans (r2.fr.2.2.1.trans r1.fr.2.2.1), ?_, ?_, ?_, ?_, ?_, ?_, ?_⟩
  · intro h
    refine optLe_trans (r1.seen h) (optLe_trans ?_ (r3.seen h))
    rw [seenS_congr r2.fr.2.1 r2.fr.2.2.2]; exact optLe_refl _
  · intro h
    rw [seenC_congr r3.fr.2.1 r3.fr.2.2.2, ← seenC_congr r1.fr.2.1 r1.fr.2.2.2 h]
    exact r2.seen h
  · intro h a ha
    obtain ⟨b, hb, q1⟩ := r1.chg h a ha
    obtain ⟨c, hc, q2⟩ := r3.chg h b (by rw [fSB]; exact hb)
    refine ⟨c, hc, ?_⟩
    rcases q1 with rfl | q1
    · exact q2
    · rcases q2 with rfl | q2
      · exact .inr q1
      · exact .inr (Nat.lt_trans q1 q2)
  · intro h b hb
    rcases r3.src h b hb with hc | hk
    · rw [fSB] at hc; exact r1.src h b hc
    · exact .inr hk
  · intro h a b ha hb
    rw [fCD] at hb; rw [← fCA] at ha
    exact r2.chg h a b ha hb
  · intro h b hb
    rw [fCD] at hb
    rcases r2.src h b hb with hc | hk
    · rw [fCA] at hc; exact .inl hc
    · exact .inr hk
  · intro hnd h a ha
    rw [fCD]; rw [← fCA] at ha
    exact r2.keep hnd h a ha

theorem pendUpd_nil (x : Handle) : ¬ pendUpd [] x := by rintro ⟨o, n, h⟩; cases h

theorem CInv.stateFacts {c : DCommit} (h : CInv t₀ tx₀ del [] (pendUpd []) c.t c.tx) :
    SB c.tx.sItems [] (fun x => x ∈ c.tx.cItems.map (·.1)) c.t ∧ CItemsOK true c.t c.tx.cItems ∧
    (∀ p ∈ c.tx.cItems, ∀ n ∈ p.2.new, ∀ d ∈ c.t.descrs, d.handle = n.dh → d.kind = .context) := by
  have hnp : ∀ x, ¬ pendUpd [] x := pendUpd_nil
  have huniq : ∀ d ∈ c.t.descrs, ∀ d' ∈ c.t.descrs, d.handle = d'.handle → d = d' := fun d hd d' hd' e => mem_unique h.dKeys hd hd' e
  have hsi : SItemsOK c.t c.tx.sItems := by
    refine ⟨h.siKeys, fun p hp => (h.si p hp).dh, fun p hp => (h.si p hp).old, ?_, fun p hp => (h.si p hp).bump⟩
    intro p hp
    rcases (h.si p hp).ref with ⟨d, hd, e1, _, e3⟩ | ⟨n, hn, _⟩
    · exact ⟨d, hd, e1, e3 (hnp _)⟩
    · cases hn
  have hkinds : ∀ p ∈ c.tx.sItems, p.2.new.kind ≠ .context ∧ ∀ d ∈ c.t.descrs, d.handle = p.1 → d.kind ≠ .context := by
    intro p hp
    refine ⟨(h.si p hp).kind, ?_⟩
    intro d hd e
    rcases (h.si p hp).ref with ⟨d', hd', e1, e2, _⟩ | ⟨n, hn, _⟩
    · rw [huniq d hd d' hd' (e.trans e1.symm)]; exact e2
    · cases hn
  have hb0 : SB c.tx.sItems [] (fun x => x ∈ c.tx.cItems.map (·.1)) c.t := by
    refine ⟨⟨h.dKeys, h.sKeys, h.cKeys, ?_, ?_, ?_⟩, ?_, hkinds⟩
    · intro s hs
      obtain ⟨k, d, hd, e1, e2, e3⟩ := h.sRef s hs
      refine ⟨k, d, hd, e1, e2, fun hS => e3 (fun hx => hS ?_) (hnp _)⟩
      obtain ⟨p, hp, e⟩ := List.mem_map.1 hx
      exact ⟨p, hp, e, by simp⟩
    · intro x hx
      obtain ⟨d, hd, e1, e2, e3⟩ := h.cRef x hx
      exact ⟨d, hd, e1, e2, fun hC => e3 hC (hnp _)⟩
    · intro d hd p hp
      rcases h.dPar d hd p hp with a | ⟨n, hn⟩
      · obtain ⟨q, hq, e⟩ := List.mem_map.1 a; exact ⟨q, hq, e⟩
      · cases hn
    · rw [List.filter_eq_self.2 (fun _ _ => by simp)]; exact hsi
  have hci : CItemsOK true c.t c.tx.cItems := by
    refine ⟨h.ciKeys, ?_, fun p hp => .inl (h.ci p hp).old, ?_, ?_⟩
    · intro p hp n hn; exact ((h.ci p hp).new n hn).1
    · intro p hp n hn
      obtain ⟨_, _, _, _, f⟩ := (h.ci p hp).new n hn
      rcases f with ⟨d, hd, e1, _, e3⟩ | ⟨m, hm, _⟩
      · exact ⟨d, hd, e1, e3 (hnp _)⟩
      · cases hm
    · intro _ p hp n hn; exact ((h.ci p hp).new n hn).2.2.2.1
  have hck : ∀ p ∈ c.tx.cItems, ∀ n ∈ p.2.new, ∀ d ∈ c.t.descrs, d.handle = n.dh → d.kind = .context := by
    intro p hp n hn d hd e
    obtain ⟨_, _, _, _, f⟩ := (h.ci p hp).new n hn
    rcases f with ⟨d', hd', e1, e2, _⟩ | ⟨m, hm, _⟩
    · rw [huniq d hd d' hd' (e.trans e1.symm)]; exact e2
    · cases hm
  exact ⟨hb0, hci, hck⟩

theorem commitStates_ok {c : DCommit} (h : CInv t₀ tx₀ del [] (pendUpd []) c.t c.tx) :
    (commitStates c).2 = none ∧ WF (commitStates c).1.t ∧ KOK (commitStates c).1.t ∧
      CommitRel c.tx c.t (commitStates c).1.t := by
  obtain ⟨hb0, hci, hck⟩ := h.stateFacts
  obtain ⟨e1, b1, t1, f1⟩ := SB.kindsAll [.alert, .metric] [] c hb0 rfl (by decide) (by simp)
  unfold commitStates
  generalize applyKinds c [.alert, .metric] = r1 at e1 b1 t1 f1
  obtain ⟨c1, x1⟩ := r1
  simp only at e1 b1 t1 f1; subst e1
  simp only
  have hci1 : CItemsOK true c1.t c1.tx.cItems := by rw [t1]; exact hci.congr f1.fr.2.1 f1.fr.2.2.2 f1.fr.1
  have hck1 : ∀ p ∈ c1.tx.cItems, ∀ n ∈ p.2.new, ∀ d ∈ c1.t.descrs, d.handle = n.dh → d.kind = .context := by
    rw [t1, f1.fr.1]; exact hck
  obtain ⟨e2, b2, t2, f2⟩ := b1.ctx hci1 hck1
  generalize applyCtx c1 = r2 at e2 b2 t2 f2
  obtain ⟨c2, x2⟩ := r2
  simp only at e2 b2 t2 f2; subst e2
  simp only
  obtain ⟨e3, b3, _, f3⟩ := SB.kindsAll [.component, .operational, .rt] _ c2 b2 (by rw [t2, t1]) (by decide) (by decide)
  refine ⟨e3, ?_⟩
  have hwk := b3.wfm.wf (S := _) (C := _) (by
    rintro x ⟨p, hp, _, hk⟩
    have hc := (hb0.kinds p hp).1
    generalize p.2.new.kind = k at hk hc
    cases k <;> first | exact hc rfl | exact hk (by decide)) (by
    rintro x ⟨hx, hnx⟩
    exact hnx (by rw [t1]; exact hx))
  refine ⟨hwk.1, hwk.2, ?_⟩
  rw [t1] at f2
  exact CommitRel.mk3 f1 f2 f3

theorem commitD_elim {t : Tables} (hw : WF t) (hk : KOK t) {tx : DTx} (hi : DTxOK t tx)
    {P : Tables × TxResult × Option Err → Prop} (h1 : tx.descr.isEmpty = true → P (t, {}, none))
    (h2 : consistentD t tx = false → P (t, {}, some .apiUsage))
    (h3 : ∀ c : DCommit, consistentD t tx = true → DStatic t tx (deletedHandles t tx) →
      CInv t tx (deletedHandles t tx) [] (pendUpd []) c.t c.tx → RInv t tx (deletedHandles t tx) [] c.t c.res →
      (KeepsParent tx → DeletesFlatFrom t [] tx.descr → RExt t tx tx.descr c.t c.res) →
      P ((commitStates c).1.t, (commitStates c).1.res, (commitStates c).2)) : P (commitD t tx) := by
  unfold commitD
  by_cases he : tx.descr.isEmpty = true
  · rw [if_pos he]; exact h1 he
  rw [if_neg he]
  cases hc : consistentD t tx with
  | false => exact h2 hc
  | true =>
    have hs := dStatic hw hi hc
    obtain ⟨e1, i1, r1, x1⟩ := commitDItems_result hw hi hs tx.descr [] { t := { t with ver := t.ver + 1 }, tx := tx } rfl
      (CInv.init hw hk hi hs (t.ver + 1)) (RInv.init t tx (deletedHandles t tx) tx.descr (t.ver + 1))
    dsimp only [Bool.not_true, Bool.false_eq_true, if_false]
    generalize commitDItems (deletedHandles t tx) (toCreateOf tx) (toUpdateOf tx) { t := { t with ver := t.ver + 1 }, tx := tx }
      tx.descr = r at e1 i1 r1 x1
    obtain ⟨c, e⟩ := r
    cases e1
    exact h3 c hc hs i1 r1 (fun hkeep hfl => x1 hkeep hfl (RExt.init t tx (t.ver + 1)))

theorem commitD_inv {t : Tables} (hw : WF t) (hk : KOK t) {tx : DTx} (hi : DTxOK t tx) (hne : tx.descr.isEmpty = false)
    (hnf : (commitD t tx).2.2 = none) :
    ∃ c : DCommit, commitD t tx = ((commitStates c).1.t, (commitStates c).1.res, none) ∧ consistentD t tx = true ∧
      DStatic t tx (deletedHandles t tx) ∧ CInv t tx (deletedHandles t tx) [] (pendUpd []) c.t c.tx ∧
      RInv t tx (deletedHandles t tx) [] c.t c.res ∧
      (KeepsParent tx → DeletesFlatFrom t [] tx.descr → RExt t tx tx.descr c.t c.res) :=
  commitD_elim hw hk hi (P := fun r => r.2.2 = none → ∃ c : DCommit, r = ((commitStates c).1.t, (commitStates c).1.res, none) ∧
      consistentD t tx = true ∧ DStatic t tx (deletedHandles t tx) ∧ CInv t tx (deletedHandles t tx) [] (pendUpd []) c.t c.tx ∧
      RInv t tx (deletedHandles t tx) [] c.t c.res ∧ (KeepsParent tx → DeletesFlatFrom t [] tx.descr → RExt t tx tx.descr c.t c.res))
    (fun he => by rw [hne] at he; cases he) (fun _ h => nomatch h)
    (fun c hc hs h1 r1 x1 h => ⟨c, Prod.ext rfl (Prod.ext rfl h), hc, hs, h1, r1, x1⟩) hnf

theorem commitD_ok {t : Tables} (hw : WF t) (hk : KOK t) {tx : DTx} (hi : DTxOK t tx) :
    ((commitD t tx).2.2 ≠ none → consistentD t tx = false ∧ (commitD t tx).1 = t) ∧ WF (commitD t tx).1 ∧ KOK (commitD t tx).1 := by
  refine commitD_elim hw hk hi (P := fun r => (r.2.2 ≠ none → consistentD t tx = false ∧ r.1 = t) ∧ WF r.1 ∧ KOK r.1)
    (fun _ => ⟨fun h => absurd rfl h, hw, hk⟩) (fun hc => ⟨fun _ => ⟨hc, rfl⟩, hw, hk⟩) (fun c _ _ i1 _ _ => ?_)
  obtain ⟨e2, w, k, _⟩ := commitStates_ok i1
  exact ⟨fun h => absurd e2 h, w, k⟩

theorem runD_ok {t : Tables} (hw : WF t) (hk : KOK t) (s : DScript) (hs : DScriptOK t s) :
    ((runD t s).2.2 = .commitFailed → (runD t s).1 = t) ∧ WF (runD t s).1 ∧ KOK (runD t s).1 := by
  refine runD_elim (P := fun r => (r.2.2 = .commitFailed → r.1 = t) ∧ WF r.1 ∧ KOK r.1) ⟨fun _ => rfl, hw, hk⟩ ⟨fun _ => rfl, hw, hk⟩
    (fun tx e htx he => ?_) (fun tx htx he => ?_)
  · obtain ⟨a, b, c⟩ := commitD_ok hw hk (dCalls_ok hw hk hs htx)
    exact ⟨fun _ => (a (by rw [he]; nofun)).2, b, c⟩
  · obtain ⟨_, b, c⟩ := commitD_ok hw hk (dCalls_ok hw hk hs htx)
    refine ⟨fun h => ?_, b, c⟩
    dsimp only at h; split at h <;> cases h

/-- counters never go down, and whatever differs afterwards has a larger version -/
structure DMono (t T' : Tables) : Prop where
  seenD : ∀ h, seenD t h ≤ seenD T' h
  seenS : ∀ h, seenS t h ≤ seenS T' h
  seenC : ∀ h, seenC t h ≤ seenC T' h
  chgD : ∀ h a b, findD t h = some a → findD T' h = some b → a = b ∨ a.ver < b.ver
  chgS : ∀ h a b, findS t h = some a → findS T' h = some b → a = b ∨ a.sv < b.sv
  chgC : ∀ h a b, findC t h = some a → findC T' h = some b → a = b ∨ a.sv < b.sv

theorem DMono.refl (t : Tables) : DMono t t :=
  ⟨fun _ => optLe_refl _, fun _ => optLe_refl _, fun _ => optLe_refl _,
   fun _ _ _ ha hb => .inl (Option.some.inj (ha.symm.trans hb)), fun _ _ _ ha hb => .inl (Option.some.inj (ha.symm.trans hb)),
   fun _ _ _ ha hb => .inl (Option.some.inj (ha.symm.trans hb))⟩

theorem commitD_mono {t : Tables} (hw : WF t) (hk : KOK t) {tx : DTx} (hi : DTxOK t tx) : DMono t (commitD t tx).1 := by
  refine commitD_elim hw hk hi (P := fun r => DMono t r.1) (fun _ => DMono.refl t) (fun _ => DMono.refl t) (fun c _ _ h1 _ _ => ?_)
  obtain ⟨_, _, _, R⟩ := commitStates_ok h1
  dsimp only
  generalize (commitStates c).1.t = T' at R
  have S := h1.seen
  refine ⟨?_, ?_, ?_, ?_, ?_, ?_⟩
  · intro h; rw [seenD_congr R.descrs R.dSaved]; exact S.monoD h
  · intro h; rw [← S.seenSeq h]; exact R.seenS h
  · intro h; rw [← S.seenCeq h]; exact R.seenC h
  · intro h a b ha hb
    obtain ⟨ea, hma⟩ := findD_some ha
    obtain ⟨eb, hmb⟩ := findD_some hb
    rw [R.descrs] at hmb
    exact S.dChg b hmb a hma (ea.trans eb.symm)
  · intro h a b ha hb
    rcases R.srcS h b hb with hcb | hkey
    · have := S.sSame h b hcb
      rw [ha] at this; exact .inl (Option.some.inj this)
    · obtain ⟨p, hp, rfl⟩ := List.mem_map.1 hkey
      cases hf : findS c.t p.1 with
      | none =>
        have := h1.siOld0 p hp (by rw [(h1.si p hp).old, hf])
        rw [ha] at this; cases this
      | some a' =>
        have := S.sSame _ a' hf
        rw [ha] at this; cases this
        obtain ⟨b', hb', r⟩ := R.chgS _ a hf
        rw [hb] at hb'; cases hb'; exact r
  · intro h a b ha hb
    rcases R.srcC h b hb with hcb | hkey
    · have := S.cSame h b hcb
      rw [ha] at this; exact .inl (Option.some.inj this)
    · obtain ⟨p, hp, rfl, _⟩ := hkey
      cases hf : findC c.t p.1 with
      | none =>
        have := h1.ciOld0 p hp (by rw [(h1.ci p hp).old, hf])
        rw [ha] at this; cases this
      | some a' =>
        have := S.cSame _ a' hf
        rw [ha] at this; cases this
        exact R.chgC _ a b hf hb

theorem runD_mono {t : Tables} (hw : WF t) (hk : KOK t) (s : DScript) (hs : DScriptOK t s) : DMono t (runD t s).1 :=
  runD_elim (P := fun r => DMono t r.1) (DMono.refl t) (DMono.refl t)
    (fun _ _ htx _ => commitD_mono hw hk (dCalls_ok hw hk hs htx)) (fun _ htx _ => commitD_mono hw hk (dCalls_ok hw hk hs htx))

end Sdc.Mdib
