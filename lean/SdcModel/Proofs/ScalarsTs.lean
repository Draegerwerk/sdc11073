import SdcModel.Scalars
import SdcModel.Proofs.Fp64
/-! timestamps: the two roundings of `n / 1000 * 1000` stay closer than 1/2 to `n`, for every `n < 2^53 / 1000` -/
namespace Sdc.Scalars
open Sdc.Fp64

/-- abstract form: two operations with relative error `u = 2^-53` -/
theorem ts_close (x y : ℚ) (n : ℕ) (hn : (n:ℚ) < 2 ^ 53 / 1000)
    (h1 : |x - (n:ℚ) / 1000| ≤ (n:ℚ) / 1000 * u) (h2 : |y - x * 1000| ≤ x * 1000 * u) :
    |y - n| < 1 / 2 := by
  have h1000 : (0:ℚ) < 1000 := by norm_num
  have e1 : |x * 1000 - n| ≤ n * u := by
    have := mul_le_mul_of_nonneg_right h1 h1000.le
    rwa [abs_sub_div_mul _ _ h1000, mul_right_comm, div_mul_cancel₀ _ h1000.ne'] at this
  have hnu : n * u < 1 / 1000 := by
    have := mul_lt_mul_of_pos_right hn u_pos
    rwa [div_mul_eq_mul_div, two_pow_mul_u] at this
  have hnuu : n * u * u ≤ n * u * (1 / 10 ^ 15) :=
    mul_le_mul_of_nonneg_left u_lt.le (mul_nonneg n.cast_nonneg u_pos.le)
  -- the second rounding acts on `x * 1000 ≤ n + n u`: in all `n u (2 + u)`, and `n u < 1 / 1000`
  calc |y - n| ≤ (n + n * u) * u + n * u := abs_sub_le_of_rel u_pos.le h2 e1
    _ < 1 / 2 := by linarith only [hnu, hnuu]

theorem tsPy_natCast (n : Nat) : tsPy (n : Int) = rnRat false n 1000 := by
  unfold tsPy
  rw [decide_eq_false (by omega), Int.natAbs_natCast]

theorem tsXml_of_pos (x : Fp) (hpos : x.neg = false) : tsXml x = (roundHalfEven (rnMul x 1000) : Int) := by
  unfold tsXml roundInt rnMul
  rw [rnRat_neg, hpos]
  rfl

theorem tsXml_tsPy (n : Nat) (h : n * 1000 < 2 ^ 53) : tsXml (tsPy (n : Int)) = (n : Int) := by
  rw [tsPy_natCast, tsXml_of_pos _ (rnRat_neg _ _ _)]
  congr 1
  apply roundHalfEven_near
  have h1 := rnRat_err false n 1000 (by norm_num)
  have h2 := rnMul_err (rnRat false n 1000) 1000
  have hn : (n:ℚ) < 2 ^ 53 / 1000 := by
    rw [lt_div_iff₀ (by norm_num)]; exact_mod_cast h
  exact ts_close _ _ n hn h1 h2

theorem intStr_natCast (n : Nat) : intStr (n : Int) = natStr n := by
  unfold intStr
  rw [if_neg (by omega), Int.natAbs_natCast]

theorem tsToXml_tsPy (n : Nat) (h : n * 1000 < 2 ^ 53) : tsToXml (tsPy (n : Int)) = natStr n := by
  unfold tsToXml
  rw [tsXml_tsPy n h, intStr_natCast]

theorem tsPy_tsXml_close (x : Fp) (hpos : x.neg = false) (hx : x.abs ≤ 2 ^ 41) :
    ∃ k : Nat, tsXml x = (k : Int) ∧ |(tsPy (k : Int)).abs - x.abs| < 1 / 1000 := by
  refine ⟨roundHalfEven (rnMul x 1000), tsXml_of_pos x hpos, ?_⟩
  rw [tsPy_natCast]
  have h1 := rnMul_err x 1000
  have h2 := roundHalfEven_err (rnMul x 1000)
  have h3 := rnRat_err false (roundHalfEven (rnMul x 1000)) 1000 (by norm_num)
  generalize (rnRat false (roundHalfEven (rnMul x 1000)) 1000).abs = Z at h3 ⊢
  generalize (roundHalfEven (rnMul x 1000) : ℚ) = K at h2 h3
  generalize (rnMul x 1000).abs = Y at h1 h2
  generalize x.abs = X at hx h1 ⊢
  have h1000 : (0:ℚ) < 1000 := by norm_num
  -- `K` is within `1/2 + 1000 X u` of `1000 X`, so `K / 1000` within `δ = 1/2000 + X u` of `X` …
  have hδ : |K / 1000 - X| ≤ (1 / 2 + X * 1000 * u) / 1000 := by
    rw [abs_sub_comm, le_div_iff₀ h1000, abs_sub_div_mul _ _ h1000, abs_sub_comm]
    exact (abs_sub_le K Y _).trans (add_le_add h2 h1)
  -- … and the last rounding adds `(X + δ) u`; in all `2 X u + 1/2000 + δ u`, where `X u ≤ 2^-12`
  have hXu : X * u ≤ 1 / 2 ^ 12 := by
    have := mul_le_mul_of_nonneg_right hx u_pos.le
    rwa [show (2:ℚ) ^ 41 * u = 1 / 2 ^ 12 by unfold u; norm_num] at this
  have hXuu : X * u * u ≤ 1 / 2 ^ 12 * u := mul_le_mul_of_nonneg_right hXu u_pos.le
  calc |Z - X| ≤ (X + (1 / 2 + X * 1000 * u) / 1000) * u + (1 / 2 + X * 1000 * u) / 1000 :=
        abs_sub_le_of_rel u_pos.le h3 hδ
    _ < 1 / 1000 := by linarith only [hXu, hXuu, u_lt]

end Sdc.Scalars
