import SdcModel.SendOrder
import SdcModel.Proofs.SendOrder
/-! Every committed version is handed to the subscription managers (writer interleaving semantics, C04).
`cs` / `Complete` are specification vocabulary of C04 (the decidable completeness check of a writer program, used in the
statements of `Properties/C04.lean`); `Pending` and `Cov` are the invariant, `cov_reach` its preservation. -/
namespace Sdc.SendOrder

/-- `cs pend prog`: in every critical section of `L` a version write is followed by a send before the next version write
    and before `L` is released (`pend` = a version was written and not sent yet) -/
def cs : Bool → List Act → Bool
  | pend, [] => !pend
  | pend, .acq _ :: r => cs pend r
  | pend, .rel l :: r => if l = L then (!pend && cs false r) else cs pend r
  | pend, .incVer :: r => !pend && cs true r
  | _, .send :: r => cs false r

/-- the program reports every version it commits -/
def Complete (p : List Act) : Prop := cs false p = true
instance (p : List Act) : Decidable (Complete p) := by unfold Complete; infer_instance

/-- thread `i` has written the current version inside the critical section it is in and has not sent it yet -/
def Pending (c : Cfg) (i : Nat) : Prop :=
  cs true (c.thr i).prog = true ∧ c.owner L = some i ∧ (c.thr i).mine = c.ver

/-- coverage invariant relative to the start version `v0` -/
structure Cov (v0 : Nat) (c : Cfg) : Prop where
  thr : ∀ i, cs false (c.thr i).prog = true ∨ Pending c i
  cov : ∀ v, v0 < v → v ≤ c.ver → v ∈ c.log ∨ (v = c.ver ∧ ∃ i, Pending c i)

theorem cov_init (c : Cfg) (hc : ∀ i, Complete (c.thr i).prog) : Cov c.ver c :=
  ⟨fun i => .inl (hc i), fun _ h1 h2 => absurd h2 (Nat.not_le_of_gt h1)⟩

/-- assembling `Cov v0 c'` after a step: the version grows by at most one (and then is pending), what was sent stays sent,
    and a pending version is sent or stays pending -/
theorem cov_of_step {v0 : Nat} {c c' : Cfg} (k : Cov v0 c)
    (hthr : ∀ j, cs false (c'.thr j).prog = true ∨ Pending c' j)
    (hver : c'.ver = c.ver ∨ c'.ver = c.ver + 1 ∧ ∃ j, Pending c' j)
    (hlog : ∀ v ∈ c.log, v ∈ c'.log)
    (hpend : ∀ j, Pending c j → c.ver ∈ c'.log ∨ c'.ver = c.ver ∧ ∃ j', Pending c' j') : Cov v0 c' := by
  refine ⟨hthr, fun v h1 h2 => ?_⟩
  by_cases hv : v ≤ c.ver
  · rcases k.cov v h1 hv with h | ⟨rfl, j, hj⟩
    · exact .inl (hlog v h)
    · exact (hpend j hj).imp id fun ⟨e, h⟩ => ⟨e.symm, h⟩
  · rcases hver with e | ⟨e, h⟩
    · exact absurd (e ▸ h2) hv
    · exact .inr ⟨Nat.le_antisymm h2 (e ▸ Nat.lt_of_not_le hv), h⟩

/-- a step that `cs` skips and that takes `L` from no thread (any `acq`; `rel` of another lock) -/
theorem cov_skip {v0 : Nat} {c : Cfg} {i : Nat} {r : List Act} {o' : Nat → Option Nat} (k : Cov v0 c)
    (hcs : ∀ p, cs p (c.thr i).prog = cs p r) (ho : ∀ j, c.owner L = some j → o' L = some j) :
    Cov v0 { c with owner := o', thr := setThr c i { c.thr i with prog := r } } := by
  have key : ∀ j, (setThr c i { c.thr i with prog := r } j).mine = (c.thr j).mine ∧
      ∀ p, cs p (setThr c i { c.thr i with prog := r } j).prog = cs p (c.thr j).prog := by
    intro j
    by_cases hj : j = i
    · rw [hj, setThr_self]; exact ⟨rfl, fun p => (hcs p).symm⟩
    · rw [setThr_ne _ _ _ _ hj]; exact ⟨rfl, fun _ => rfl⟩
  have hp : ∀ j, Pending c j → Pending { c with owner := o', thr := setThr c i { c.thr i with prog := r } } j :=
    fun j h => ⟨((key j).2 true).trans h.1, ho j h.2.1, (key j).1.trans h.2.2⟩
  exact cov_of_step k (fun j => (k.thr j).imp ((key j).2 false).trans (hp j)) (.inl rfl) (fun _ h => h)
    fun j h => .inr ⟨rfl, j, hp j h⟩

/-- when the holder of `L` is at a `rel L` or an `incVer`, no version is pending -/
theorem idle_of {v0 : Nat} {c : Cfg} {i : Nat} (k : Cov v0 c) (ho : c.owner L = some i)
    (hcs : cs true (c.thr i).prog = false) : (∀ j, ¬ Pending c j) ∧ ∀ j, cs false (c.thr j).prog = true := by
  have np : ∀ j, ¬ Pending c j := fun j h => by
    by_cases hj : j = i
    · exact Bool.false_ne_true (hcs ▸ hj ▸ h.1)
    · exact hj (Option.some.inj (h.2.1.symm.trans ho))
  exact ⟨np, fun j => (k.thr j).resolve_right (np j)⟩

theorem cov_step {v0 : Nat} {c c' : Cfg} (g : Good c) (k : Cov v0 c) (s : Step c c') : Cov v0 c' := by
  cases s with
  | acq i l r hp ho =>
    -- a thread that holds `L` is not disturbed: `l` was free
    refine cov_skip k (fun _ => hp ▸ rfl) fun j h => ?_
    rw [if_neg fun e => nomatch (e ▸ h).symm.trans ho]
    exact h
  | rel i l r hp ho =>
    by_cases e : l = L
    · subst e
      obtain ⟨np, idle⟩ := idle_of k ho (hp ▸ rfl)
      have hi := idle i
      rw [hp] at hi
      refine cov_of_step k (fun j => .inl ?_) (.inl rfl) (fun _ h => h) fun j h => absurd h (np j)
      dsimp only
      by_cases hj : j = i
      · rw [hj, setThr_self]; exact hi
      · rw [setThr_ne _ _ _ _ hj]; exact idle j
    · refine cov_skip k (fun _ => hp ▸ if_neg e) fun j h => ?_
      rw [if_neg (Ne.symm e)]
      exact h
  | incVer i r hp =>
    have hown : c.owner L = some i := good_holds g (hp ▸ rfl)
    obtain ⟨np, idle⟩ := idle_of k hown (hp ▸ rfl)
    have hi : Pending { c with ver := c.ver + 1, thr := setThr c i { prog := r, mine := c.ver + 1 } } i := by
      have h := idle i
      rw [hp] at h
      unfold Pending
      dsimp only
      rw [setThr_self]
      exact ⟨h, hown, rfl⟩
    refine cov_of_step k (fun j => ?_) (.inr ⟨rfl, i, hi⟩) (fun _ h => h) fun j h => absurd h (np j)
    by_cases hj : j = i
    · exact .inr (hj ▸ hi)
    · refine .inl ?_
      dsimp only
      rw [setThr_ne _ _ _ _ hj]; exact idle j
  | send i r hp =>
    have hoth : ∀ j, j ≠ i → Pending c j →
        Pending { c with log := c.log ++ [(c.thr i).mine], thr := setThr c i { c.thr i with prog := r } } j := by
      intro j hj h
      unfold Pending
      dsimp only
      rw [setThr_ne _ _ _ _ hj]; exact h
    refine cov_of_step k (fun j => ?_) (.inl rfl) (fun _ h => List.mem_append_left _ h) fun j h => ?_
    · by_cases hj : j = i
      · refine .inl ?_
        dsimp only
        rw [hj, setThr_self]
        -- a `send` makes the thread idle, whether or not a version was pending
        rcases k.thr i with h | ⟨h, _⟩ <;> rw [hp] at h <;> exact h
      · refine (k.thr j).imp (fun h => ?_) (hoth j hj)
        dsimp only
        rw [setThr_ne _ _ _ _ hj]; exact h
    · by_cases hj : j = i
      · exact .inl (List.mem_append_right _ (hj ▸ h.2.2 ▸ List.mem_singleton_self _))
      · exact .inr ⟨rfl, j, hoth j hj h⟩

theorem cov_reach {c₀ c : Cfg} (g : Good c₀) (k : Cov c₀.ver c₀) (r : Reach c₀ c) : Cov c₀.ver c := by
  induction r with
  | refl => exact k
  | step r' s ih => exact cov_step (good_reach g r') ih s

end Sdc.SendOrder
