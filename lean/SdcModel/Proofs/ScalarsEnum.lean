import SdcModel.Scalars
/-! enum and boolean converters (core Lean only) -/
namespace Sdc.Scalars

theorem findLit_some (lits : List Str) (s : Str) (i : Nat) (h : findLit lits s = some i) : lits[i]? = some s := by
  induction lits generalizing i with
  | nil => cases h
  | cons l ls ih =>
    rw [findLit] at h
    by_cases hl : l = s
    · rw [if_pos hl] at h; cases h; rw [hl]; rfl
    · rw [if_neg hl] at h
      obtain ⟨j, hj, rfl⟩ := Option.map_eq_some_iff.mp h
      exact ih j hj

theorem findLit_none (lits : List Str) (s : Str) (h : s ∉ lits) : findLit lits s = none := by
  induction lits with
  | nil => rfl
  | cons l ls ih =>
    rw [findLit, if_neg fun (e : l = s) => h (e ▸ List.mem_cons_self), ih fun e => h (List.mem_cons_of_mem _ e)]
    rfl

theorem findLit_getElem (lits : List Str) (hnd : lits.Nodup) (i : Nat) (hi : i < lits.length) :
    findLit lits lits[i] = some i := by
  induction lits generalizing i with
  | nil => cases hi
  | cons l ls ih =>
    rw [List.nodup_cons] at hnd
    cases i with
    | zero => exact if_pos rfl
    | succ j =>
      have hj : j < ls.length := Nat.lt_of_succ_lt_succ hi
      rw [List.getElem_cons_succ, findLit, if_neg fun (e : l = ls[j]) => hnd.1 (e ▸ List.getElem_mem hj), ih hnd.2 j hj]
      rfl

theorem enumToPy_reject (lits : List Str) (s : Str) (h : s ∉ lits) : enumToPy lits s = .error .value := by
  unfold enumToPy; rw [findLit_none lits s h]

theorem enumToPy_ok (lits : List Str) (s : Str) (i : Nat) (h : enumToPy lits s = .ok i) : lits[i]? = some s := by
  unfold enumToPy at h
  cases hf : findLit lits s with
  | none => rw [hf] at h; cases h
  | some j => rw [hf] at h; injection h with h; subst h; exact findLit_some lits s j hf

theorem enumToXml_enumToPy (lits : List Str) (s : Str) (i : Nat) (h : enumToPy lits s = .ok i) : enumToXml lits i = s := by
  have := enumToPy_ok lits s i h
  unfold enumToXml
  simp [List.getD, this]

theorem enumToPy_enumToXml (lits : List Str) (hnd : lits.Nodup) (i : Nat) (hi : i < lits.length) :
    enumToPy lits (enumToXml lits i) = .ok i := by
  have hx : enumToXml lits i = lits[i] := by
    unfold enumToXml; simp [List.getD, List.getElem?_eq_getElem hi]
  unfold enumToPy
  rw [hx, findLit_getElem lits hnd i hi]

/-- lexical space of xsd:boolean -/
def BooleanLex (t : Str) : Prop := t = litTrue ∨ t = litFalse ∨ t = [49] ∨ t = [48]

theorem boolToPy_lex (t : Str) (h : BooleanLex t) : boolToPy t = .ok (decide (t = litTrue ∨ t = [49])) := by
  rcases h with rfl | rfl | rfl | rfl <;> rfl

theorem boolToPy_boolToXml (b : Bool) : boolToPy (boolToXml b) = .ok b := by
  cases b <;> rfl

theorem boolToXml_lex (b : Bool) : BooleanLex (boolToXml b) := by
  cases b
  · right; left; rfl
  · left; rfl

end Sdc.Scalars
