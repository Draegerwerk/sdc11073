import SdcModel.Proofs.XmlBinding
/-!
Every descriptor kind writes only inside its footprint and never changes the tag of the element (`writeKind_frame`),
and reads only its footprint (`readKind_agree`).
-/
namespace Sdc.XmlBinding

/-- footprint of a member that lives in the child element `sub` or, without one, in part `self` of the node itself -/
def subFp (self : Fp) : Option Nat → Fp
  | some n => .child n
  | none => self

theorem fp_text (sub : Option Nat) (conv : String) (o m : Bool) (st : TextStyle) (d : Option String) :
    (Kind.text sub conv o m st d).fp = subFp .selfText sub := by cases sub <;> rfl
theorem fp_textList (sub : Option Nat) (conv : String) (o : Bool) :
    (Kind.textList sub conv o).fp = subFp .selfText sub := by cases sub <;> rfl
theorem fp_raw (sub : Option Nat) (st : RawStyle) (o : Bool) : (Kind.raw sub st o).fp = subFp .selfKids sub := by
  cases sub <;> rfl


theorem within_delAttr (x : Xml) (n : Nat) : Within (.attr n) x (x.setAttrs (delAttr x.attrs n)) :=
  within_setAttrs _ fun _ hm => getAttr_delAttr_ne _ _ _ hm

theorem within_setAttr (x : Xml) (n : Nat) (l : String) : Within (.attr n) x (x.setAttrs (setAttr x.attrs n l)) :=
  within_setAttrs _ fun _ hm => getAttr_setAttr_ne _ _ _ _ hm

theorem within_withXsi (t : Option String) (x : Xml) : Within (.attr xsiType) x (withXsi t x) := by
  cases t with
  | none => exact Within.refl ..
  | some q => exact within_setAttr ..

theorem withXsi_tag (t : Option String) (x : Xml) : (withXsi t x).tag = x.tag := (within_withXsi t x).1

/-- nothing is independent of the whole node: only the tag is kept -/
theorem within_whole {x x' : Xml} (h : x'.tag = x.tag) : Within .whole x x' :=
  ⟨h, fun fp hi => by cases fp <;> cases hi⟩

theorem within_dropElem (self : Fp) (sub : Option Nat) (x : Xml) : Within (subFp self sub) x (dropElem sub x) := by
  cases sub with
  | none => exact Within.refl ..
  | some n => exact within_setKids _ fun m hm => named_removeFirst_ne n m hm _

theorem within_onElem (self : Fp) (sub : Option Nat) (f : Xml → Xml) (x : Xml) (hf : ∀ e, (f e).tag = e.tag)
    (h0 : Within self x (f x)) : Within (subFp self sub) x (onElem sub f x) := by
  cases sub with
  | none => exact h0
  | some n => exact within_setKids _ fun m hm => named_modifyFirst_ne n m hm f hf _

theorem within_setText_on (sub : Option Nat) (l : String) (x : Xml) :
    Within (subFp .selfText sub) x (onElem sub (·.setText l) x) :=
  within_onElem _ _ _ _ (fun _ => tag_setText ..) (within_setText ..)

theorem within_addKids_on (sub : Option Nat) (xs : List Xml) (x : Xml) :
    Within (subFp .selfKids sub) x (onElem sub (fun e => e.setKids (e.kids ++ xs)) x) :=
  within_onElem _ _ _ _ (fun _ => tag_setKids ..) (within_setKids_self ..)

theorem within_append {x : Xml} {n : Nat} (ks new : List Xml) (hk : ∀ m, m ≠ n → named m ks = named m x.kids)
    (hn : ∀ k ∈ new, k.tag = n) : Within (.child n) x (x.setKids (ks ++ new)) :=
  within_setKids _ fun m hm => by rw [named_append, named_ne_of_all n m hm new hn, List.append_nil, hk m hm]

/-- a write that, where it succeeds, stays within footprint `g` -/
def Frames (g : Fp) (x : Xml) (r : Option Xml) : Prop := ∀ x', r = some x' → Within g x x'

theorem frames_none {g : Fp} {x : Xml} : Frames g x none := fun _ h => nomatch h

theorem frames_some {g : Fp} {x x' : Xml} (h : Within g x x') : Frames g x (some x') := fun _ e => Option.some.inj e ▸ h

theorem frames_ite {g : Fp} {x : Xml} {c : Prop} [Decidable c] {a b : Option Xml} (ha : c → Frames g x a)
    (hb : ¬ c → Frames g x b) : Frames g x (if c then a else b) := by
  split
  · exact ha ‹_›
  · exact hb ‹_›

theorem frames_map {g : Fp} {x : Xml} {α : Type} {o : Option α} {f : α → Xml} (h : ∀ a, o = some a → Within g x (f a)) :
    Frames g x (o.map f) := by
  cases o with
  | none => exact frames_none
  | some a => exact frames_some (h a rfl)

theorem frames_clearText (sub : Option Nat) (x : Xml) (hs : sub.isNone = true) :
    Frames (subFp .selfText sub) x (some (x.setText "")) := by
  cases sub with
  | none => exact frames_some (within_setText_on none "" x)
  | some _ => cases hs

theorem writeItems_tags (S : Schema) (wr : Wr) (hwr : ∀ c fs x x', wr c fs x = some x' → x'.tag = x.tag)
    (n : Nat) (decl : Nat) (container : Bool) (vs : List Val) :
    ∀ chs : List Xml, writeItems S wr n decl container vs = some chs → ∀ ch ∈ chs, ch.tag = n := by
  induction vs with
  | nil => intro chs h; cases h; exact fun _ hc => nomatch hc
  | cons v vs ih =>
    intro chs h
    cases v with
    | obj c fs =>
      rw [writeItems] at h
      split at h
      · rename_i c0 t chs' h1 _ h3
        cases h
        exact List.forall_mem_cons.mpr ⟨(withXsi_tag ..).trans (hwr c fs _ _ h1), ih chs' h3⟩
      · cases h
    | _ => cases h

theorem writeKind_frame (C : Codec) (S : Schema) (wr : Wr) (hwr : ∀ c fs x x', wr c fs x = some x' → x'.tag = x.tag)
    (k : Kind) (v : Val) (x : Xml) : Frames k.fp x (writeKind C S wr k v x) := by
  -- for each kind and each form of the value, `writeKind` unfolds (`exact` checks this by reduction) to `none`, an `if`,
  -- a `map` or one of the updates above
  cases k with
  | attr n conv opt vol =>
    have key : ∀ w, Frames (.attr n) x (writeKind C S wr (.attr n conv opt false) w x) := by
      intro w
      cases w with
      | none => exact frames_ite (fun _ => frames_some (within_delAttr ..)) fun _ => frames_none
      | atom s => exact frames_map fun _ _ => within_setAttr ..
      | _ => exact frames_none
    -- a volatile member writes the current time whatever the value is
    cases vol with
    | false => exact key v
    | true => exact key (.atom C.now)
  | attrList n conv opt =>
    cases v with
    | none => exact frames_ite (fun _ => frames_some (within_delAttr ..)) fun _ => frames_none
    | list vs =>
      refine frames_ite (fun _ => frames_some (within_delAttr ..)) fun _ => ?_
      split
      · exact frames_map fun _ _ => within_setAttr ..
      · exact frames_none
    | _ => exact frames_none
  | text sub conv opt minLen style dflt =>
    rw [fp_text]
    have hd := frames_some (within_dropElem .selfText sub x)
    have h0 := frames_clearText sub x
    cases v with
    | none =>
      cases style with
      | date => exact hd
      | qname => exact frames_ite h0 fun _ => frames_ite (fun _ => hd) fun _ => frames_none
      | _ =>
        exact frames_ite (fun _ => frames_none) fun _ => frames_ite h0 fun _ => frames_ite (fun _ => hd) fun _ =>
          frames_some (within_setText_on sub "" x)
    | atom s => exact frames_map fun _ _ => within_setText_on ..
    | _ => exact frames_none
  | textList sub conv opt =>
    rw [fp_textList]
    cases v with
    | none =>
      exact frames_ite (frames_clearText sub x) fun _ =>
        frames_ite (fun _ => frames_some (within_dropElem ..)) fun _ => frames_none
    | list vs =>
      -- (`simp only [writeKind]` would first derive the equations of the eight-way match, which is slow)
      unfold writeKind; dsimp only
      split
      · exact frames_map fun _ _ => within_setText_on ..
      · exact frames_none
    | _ => exact frames_none
  | subTextList n conv =>
    cases v with
    | none => exact frames_some (Within.refl ..)
    | list vs =>
      cases vs with
      | nil => exact frames_some (Within.refl ..)
      | cons w ws =>
        unfold writeKind; dsimp only
        split
        · refine frames_map fun ls _ => within_append _ _ (fun m hm => named_removeAll_ne n m hm _) fun k hk => ?_
          obtain ⟨l, _, rfl⟩ := List.mem_map.mp hk
          exact tag_setText ..
        · exact frames_none
    | _ => exact frames_none
  | sub name decl opt container skipEmpty dispatch dflt =>
    cases v with
    | none => exact frames_ite (fun _ => frames_some (Within.refl ..)) fun _ => frames_none
    | obj c fs =>
      cases name with
      | none =>
        refine frames_ite (fun _ => frames_some (Within.refl ..)) fun _ => ?_
        split
        · rename_i x1 t h1 _
          exact frames_some (within_whole ((withXsi_tag ..).trans (hwr c fs x x1 h1)))
        · exact frames_none
      | some n =>
        refine frames_ite (fun _ => frames_some (Within.refl ..)) fun _ => ?_
        split
        · rename_i ch t h1 _
          refine frames_some (within_append _ _ (fun m hm => ?_) fun k hk => ?_)
          · split
            · exact named_removeFirst_ne n m hm _
            · rfl
          · cases List.mem_singleton.mp hk
            exact (withXsi_tag ..).trans (hwr c fs _ ch h1)
        · exact frames_none
    | _ => exact frames_none
  | subList n decl container dispatch =>
    have hk : ∀ m, m ≠ n → named m (if container then removeAll n x.kids else x.kids) = named m x.kids := by
      intro m hm
      split
      · exact named_removeAll_ne n m hm _
      · rfl
    cases v with
    | none =>
      cases container with
      | true => exact frames_some (within_setKids _ (hk · ·))
      | false => exact frames_some (Within.refl ..)
    | list vs => exact frames_map fun chs hw => within_append _ _ hk (writeItems_tags S wr hwr n decl container vs chs hw)
    | _ => exact frames_none
  | raw sub style opt =>
    rw [fp_raw]
    have same := frames_some (Within.refl (subFp .selfKids sub) x)
    have hd := frames_some (within_dropElem .selfKids sub x)
    have ha := fun xs => frames_some (within_addKids_on sub xs x)
    have ho : Frames (subFp .selfKids sub) x (some (if opt then dropElem sub x else x)) := by
      cases opt with
      | true => exact hd
      | false => exact same
    cases style with
    | ext =>
      cases v with
      | none => exact same
      | raw xs =>
        cases xs with
        | nil => exact same
        | cons a as => exact ha _
      | _ => exact frames_none
    | any =>
      cases v with
      | none => exact frames_ite (fun _ => hd) fun _ => frames_none
      | raw xs => exact ha xs
      | _ => exact frames_none
    | anyList =>
      cases v with
      | none => exact ho
      | raw xs =>
        cases xs with
        | nil => exact ho
        | cons a as => exact ha _
      | _ => exact frames_none

theorem elemOf_agree {n : Nat} {x y : Xml} (h : Agree (.child n) x y) : elemOf (some n) x = elemOf (some n) y :=
  (firstNamed_eq_head n x.kids).trans ((congrArg List.head? h).trans (firstNamed_eq_head n y.kids).symm)

theorem readKind_agree (C : Codec) (S : Schema) (rd : Rd) (k : Kind) (x y : Xml) (h : Agree k.fp x y) :
    readKind C S rd k x = readKind C S rd k y := by
  -- a member that lives in a sub element reads it through `elemOf`; one that lives in the node itself reads one part
  cases k with
  | attr n conv opt vol => simp only [readKind, show getAttr x.attrs n = getAttr y.attrs n from h]
  | attrList n conv opt => simp only [readKind, show getAttr x.attrs n = getAttr y.attrs n from h]
  | text sub conv opt minLen style dflt =>
    cases sub with
    | none => simp only [readKind, elemOf, show x.text = y.text from h]
    | some n => simp only [readKind, elemOf_agree h]
  | textList sub conv opt =>
    cases sub with
    | none => simp only [readKind, elemOf, show x.text = y.text from h]
    | some n => simp only [readKind, elemOf_agree h]
  | subTextList n conv => simp only [readKind, show named n x.kids = named n y.kids from h]
  | sub name decl opt container skipEmpty dispatch dflt =>
    cases name with
    | none => cases (show x = y from h); rfl
    | some n => simp only [readKind, elemOf_agree h]
  | subList n decl container dispatch => simp only [readKind, show named n x.kids = named n y.kids from h]
  | raw sub style opt =>
    cases sub with
    | none => simp only [readKind, elemOf, show x.kids = y.kids from h]
    | some n => simp only [readKind, elemOf_agree h]

end Sdc.XmlBinding
