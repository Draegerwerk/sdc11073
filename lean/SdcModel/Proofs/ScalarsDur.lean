import SdcModel.Scalars
import SdcModel.Proofs.ScalarsStr
/-! `parse_duration` / `duration_string` at string level (core Lean only): what the component readers do on
    `digits ++ rest`, the groups as a grammar (`DurationLex`), reading a rendering back, `duration_string` as a
    rendering of its groups. The float steps enter as the hypothesis `FloatStepExact`; its proof `floatStepExact`
    needs rational arithmetic (Mathlib) and is in `Proofs/ScalarsDurFp.lean` -/
namespace Sdc.Scalars

def DigitsNE (d : Str) : Prop := d ≠ [] ∧ ∀ c ∈ d, isDigit c = true

theorem digitsNE_natStr (n : Nat) : DigitsNE (natStr n) := ⟨natStr_ne_nil n, natStr_digits n⟩

theorem takeComp_nil (t : Nat) : takeComp t [] = none := rfl

theorem takeSeconds_nil : takeSeconds [] = none := rfl

theorem takeComp_span (t : Nat) (d : Str) (c : Nat) (rest : Str) (hd : ∀ c ∈ d, isDigit c = true)
    (hc : isDigit c = false) :
    takeComp t (d ++ c :: rest) = if c = t ∧ ¬ d.isEmpty then some (d, rest) else none := by
  have hsp := span_cons d c rest hd hc
  unfold takeComp
  dsimp only
  rw [hsp.1, hsp.2]

theorem takeComp_hit (t : Nat) (d rest : Str) (hd : DigitsNE d) (ht : isDigit t = false) :
    takeComp t (d ++ t :: rest) = some (d, rest) := by
  rw [takeComp_span t d t rest hd.2 ht, if_pos ⟨rfl, by rw [List.isEmpty_eq_false_iff.mpr hd.1]; decide⟩]

theorem takeComp_miss (t c : Nat) (d rest : Str) (hd : ∀ c ∈ d, isDigit c = true) (hc : isDigit c = false)
    (hct : c ≠ t) : takeComp t (d ++ c :: rest) = none := by
  rw [takeComp_span t d c rest hd hc, if_neg fun h => hct h.1]

theorem takeComp_some (t : Nat) (s d r : Str) (h : takeComp t s = some (d, r)) : s = d ++ t :: r ∧ DigitsNE d := by
  unfold takeComp at h
  dsimp only at h
  have hsplit := List.takeWhile_append_dropWhile (p := isDigit) (l := s)
  cases hdw : s.dropWhile isDigit with
  | nil => rw [hdw] at h; cases h
  | cons c r' =>
    rw [hdw] at h hsplit
    dsimp only at h
    split at h
    · rename_i hc
      cases h
      exact ⟨by rw [← hc.1]; exact hsplit.symm, fun h0 => hc.2 (List.isEmpty_iff.mpr h0), mem_takeWhile s⟩
    · cases h

theorem takeSeconds_int (d rest : Str) (hd : DigitsNE d) : takeSeconds (d ++ 83 :: rest) = some (d, [], rest) := by
  have hsp := span_cons d 83 rest hd.2 (by decide)
  unfold takeSeconds
  dsimp only
  rw [hsp.1, hsp.2, List.isEmpty_eq_false_iff.mpr hd.1]
  rfl

theorem takeSeconds_frac (d f rest : Str) (hd : DigitsNE d) (hf : DigitsNE f) :
    takeSeconds (d ++ 46 :: (f ++ 83 :: rest)) = some (d, f, rest) := by
  have hsp := span_cons d 46 (f ++ 83 :: rest) hd.2 (by decide)
  unfold takeSeconds
  dsimp only
  rw [hsp.1, hsp.2, List.isEmpty_eq_false_iff.mpr hd.1, if_neg Bool.false_ne_true]
  dsimp only
  rw [takeComp_hit 83 f rest hf (by decide)]
  rfl

theorem takeSeconds_some (s d f r : Str) (h : takeSeconds s = some (d, f, r)) :
    s = d ++ (if f = [] then 83 :: r else 46 :: (f ++ 83 :: r)) ∧ DigitsNE d ∧ ∀ c ∈ f, isDigit c = true := by
  unfold takeSeconds at h
  dsimp only at h
  have hsplit := List.takeWhile_append_dropWhile (p := isDigit) (l := s)
  by_cases hne : (s.takeWhile isDigit).isEmpty = true
  · rw [if_pos hne] at h; cases h
  · rw [if_neg hne] at h
    have hd : DigitsNE (s.takeWhile isDigit) := ⟨fun h0 => hne (List.isEmpty_iff.mpr h0), mem_takeWhile s⟩
    cases hdw : s.dropWhile isDigit with
    | nil => rw [hdw] at h; cases h
    | cons c r' =>
      rw [hdw] at h hsplit
      dsimp only at h
      by_cases hc : c = 83
      · rw [if_pos hc] at h
        cases h
        exact ⟨by rw [if_pos rfl, ← hc]; exact hsplit.symm, hd, fun _ hx => nomatch hx⟩
      · rw [if_neg hc] at h
        by_cases hc46 : c = 46
        · rw [if_pos hc46] at h
          cases htc : takeComp 83 r' with
          | none => rw [htc] at h; cases h
          | some fr =>
            rw [htc] at h
            cases h
            obtain ⟨hr, hf⟩ := takeComp_some 83 r' _ _ htc
            exact ⟨by rw [if_neg hf.1, ← hr, ← hc46]; exact hsplit.symm, hd, hf.2⟩
        · rw [if_neg hc46] at h; cases h

def renderH (o : Option Str) : Str := match o with | some d => d ++ [72] | none => []
def renderM (o : Option Str) : Str := match o with | some d => d ++ [77] | none => []
def renderS (o : Option (Str × Str)) : Str :=
  match o with
  | some (d, f) => d ++ (if f = [] then [83] else 46 :: (f ++ [83]))
  | none => []

/-- `renderH` / `renderM` (the names `DurationLex` uses) are this with terminator `H` / `M` -/
def renderC (t : Nat) (o : Option Str) : Str := match o with | some d => d ++ [t] | none => []

theorem renderH_eq (o : Option Str) : renderH o = renderC 72 o := by cases o <;> rfl
theorem renderM_eq (o : Option Str) : renderM o = renderC 77 o := by cases o <;> rfl

/-- the SDPi duration pattern `PT(\d+H)?(\d+M)?(\d+(\.\d+)?S)?` with at least one component, as a grammar -/
def DurationLex (t : Str) : Prop :=
  ∃ (oh om : Option Str) (os : Option (Str × Str)),
    (∀ d, oh = some d → DigitsNE d) ∧ (∀ d, om = some d → DigitsNE d) ∧
    (∀ d f, os = some (d, f) → DigitsNE d ∧ ∀ c ∈ f, isDigit c = true) ∧
    (oh.isSome ∨ om.isSome ∨ os.isSome) ∧
    t = 80 :: 84 :: (renderH oh ++ (renderM om ++ renderS os))

theorem render_ne_nil_iff (oh om : Option Str) (os : Option (Str × Str)) :
    renderH oh ++ (renderM om ++ renderS os) ≠ [] ↔ (oh.isSome ∨ om.isSome ∨ os.isSome) := by
  cases oh with
  | some d => exact ⟨fun _ => Or.inl rfl, fun _ h => by cases d <;> cases h⟩
  | none =>
    cases om with
    | some d => exact ⟨fun _ => Or.inr (Or.inl rfl), fun _ h => by cases d <;> cases h⟩
    | none =>
      cases os with
      | some df => exact ⟨fun _ => Or.inr (Or.inr rfl), fun _ h => by
          obtain ⟨d, f⟩ := df
          have h2 := (List.append_eq_nil_iff.mp (show d ++ (if f = [] then [83] else 46 :: (f ++ [83])) = [] from h)).2
          split at h2 <;> cases h2⟩
      | none => exact ⟨fun h => absurd rfl h, fun h => by rcases h with h | h | h <;> cases h⟩

theorem visible_renderC (t : Nat) (ht : 32 < t) (o : Option Str) (ho : ∀ d, o = some d → DigitsNE d) :
    Visible (renderC t o) := by
  cases o with
  | none => exact fun _ hc => nomatch hc
  | some d => exact visible_append (visible_digits (ho d rfl).2) (visible_cons ht fun _ hc => nomatch hc)

theorem visible_renderS (os : Option (Str × Str))
    (hs : ∀ d f, os = some (d, f) → DigitsNE d ∧ ∀ c ∈ f, isDigit c = true) : Visible (renderS os) := by
  cases os with
  | none => exact fun _ hc => nomatch hc
  | some df =>
    obtain ⟨d, f⟩ := df
    refine visible_append (visible_digits (hs d f rfl).1.2) ?_
    split
    · decide
    · exact visible_cons (by decide) (visible_append (visible_digits (hs d f rfl).2) (by decide))

theorem takeComp_renderS_miss (t : Nat) (h1 : t ≠ 83) (h2 : t ≠ 46) (os : Option (Str × Str))
    (hs : ∀ d f, os = some (d, f) → DigitsNE d ∧ ∀ c ∈ f, isDigit c = true) :
    takeComp t (renderS os) = none := by
  cases os with
  | none => rfl
  | some df =>
    obtain ⟨d, f⟩ := df
    have hd := (hs d f rfl).1.2
    unfold renderS
    dsimp only
    split
    · exact takeComp_miss t 83 d _ hd (by decide) (Ne.symm h1)
    · exact takeComp_miss t 46 d _ hd (by decide) (Ne.symm h2)

theorem takeComp_renderC_miss (t t' : Nat) (hne : t' ≠ t) (ht' : isDigit t' = false) (o : Option Str)
    (ho : ∀ d, o = some d → DigitsNE d) (rest : Str) (hrest : takeComp t rest = none) :
    takeComp t (renderC t' o ++ rest) = none := by
  cases o with
  | none => exact hrest
  | some d => rw [renderC, List.append_assoc]; exact takeComp_miss t t' d rest (ho d rfl).2 ht' hne

theorem optComp_renderC (t : Nat) (ht : isDigit t = false) (o : Option Str) (ho : ∀ d, o = some d → DigitsNE d)
    (rest : Str) (hrest : takeComp t rest = none) : optComp t (renderC t o ++ rest) = (o, rest) := by
  unfold optComp
  cases o with
  | some d => rw [renderC, List.append_assoc, List.singleton_append, takeComp_hit t d rest (ho d rfl) ht]
  | none => rw [renderC, List.nil_append, hrest]

theorem optSeconds_renderS (os : Option (Str × Str))
    (hs : ∀ d f, os = some (d, f) → DigitsNE d ∧ ∀ c ∈ f, isDigit c = true) :
    optSeconds (renderS os) = (os, []) := by
  unfold optSeconds
  cases os with
  | none => rfl
  | some df =>
    obtain ⟨d, f⟩ := df
    have h := hs d f rfl
    unfold renderS
    dsimp only
    by_cases hf : f = []
    · rw [if_pos hf, takeSeconds_int d [] h.1, hf]
    · rw [if_neg hf, takeSeconds_frac d f [] h.1 ⟨hf, h.2⟩]

theorem durationBody_PT (r : Str) (h : Visible r) : durationBody (80 :: 84 :: r) = some r := by
  unfold durationBody
  rw [dropNewline_id _ (visible_cons (by decide) (visible_cons (by decide) h))]
  rfl

theorem durationGroups_render (oh om : Option Str) (os : Option (Str × Str))
    (hh : ∀ d, oh = some d → DigitsNE d) (hm : ∀ d, om = some d → DigitsNE d)
    (hs : ∀ d f, os = some (d, f) → DigitsNE d ∧ ∀ c ∈ f, isDigit c = true)
    (hsome : oh.isSome ∨ om.isSome ∨ os.isSome) :
    durationGroups (80 :: 84 :: (renderH oh ++ (renderM om ++ renderS os))) = some (oh, om, os) := by
  have hne := (render_ne_nil_iff oh om os).mpr hsome
  have hS := fun t h1 h2 => takeComp_renderS_miss t h1 h2 os hs
  have hMS : takeComp 72 (renderC 77 om ++ renderS os) = none :=
    takeComp_renderC_miss 72 77 (by decide) (by decide) om hm _ (hS 72 (by decide) (by decide))
  rw [renderH_eq, renderM_eq] at hne ⊢
  unfold durationGroups
  rw [durationBody_PT _ (visible_append (visible_renderC 72 (by decide) oh hh)
    (visible_append (visible_renderC 77 (by decide) om hm) (visible_renderS os hs)))]
  dsimp only
  rw [optComp_renderC 72 (by decide) oh hh _ hMS]
  dsimp only
  rw [optComp_renderC 77 (by decide) om hm _ (hS 77 (by decide) (by decide))]
  dsimp only
  rw [optSeconds_renderS os hs, List.isEmpty_eq_false_iff.mpr hne]
  rfl

theorem durationBody_some (s r : Str) (h : durationBody s = some r) : dropNewline s = 80 :: 84 :: r := by
  unfold durationBody at h
  cases hd : dropNewline s with
  | nil => rw [hd] at h; cases h
  | cons p rest =>
    rw [hd] at h
    cases rest with
    | nil => cases h
    | cons t r' =>
      dsimp only at h
      split at h
      · rename_i hc
        cases h
        rw [hc.1, hc.2]
      · cases h

theorem optComp_spec (t : Nat) (s : Str) :
    (∀ d, (optComp t s).1 = some d → DigitsNE d) ∧ s = renderC t (optComp t s).1 ++ (optComp t s).2 := by
  unfold optComp
  cases h : takeComp t s with
  | none => exact ⟨fun _ hd => (nomatch hd), rfl⟩
  | some dr =>
    obtain ⟨d, r⟩ := dr
    obtain ⟨h1, h2⟩ := takeComp_some t s d r h
    exact ⟨fun _ hd => Option.some.inj hd ▸ h2, h1.trans (List.append_assoc d [t] r).symm⟩

theorem optSeconds_spec (s : Str) :
    (∀ d f, (optSeconds s).1 = some (d, f) → DigitsNE d ∧ ∀ c ∈ f, isDigit c = true) ∧
      s = renderS (optSeconds s).1 ++ (optSeconds s).2 := by
  unfold optSeconds
  cases h : takeSeconds s with
  | none => exact ⟨fun _ _ hd => (nomatch hd), rfl⟩
  | some dfr =>
    obtain ⟨d, f, r⟩ := dfr
    obtain ⟨h1, h2, h3⟩ := takeSeconds_some s d f r h
    refine ⟨fun _ _ hd => by cases hd; exact ⟨h2, h3⟩, ?_⟩
    rw [h1]
    unfold renderS
    dsimp only
    split
    · exact (List.append_assoc d [83] r).symm
    · rw [List.append_assoc, List.cons_append, List.append_assoc]; rfl

theorem durationGroups_sound (s : Str) (g) (h : durationGroups s = some g) : DurationLex (dropNewline s) := by
  unfold durationGroups at h
  cases hb : durationBody s with
  | none => rw [hb] at h; cases h
  | some r =>
    rw [hb] at h
    dsimp only at h
    obtain ⟨w1, s1⟩ := optComp_spec 72 r
    obtain ⟨w2, s2⟩ := optComp_spec 77 (optComp 72 r).2
    obtain ⟨w3, s3⟩ := optSeconds_spec (optComp 77 (optComp 72 r).2).2
    split at h
    · rename_i hc
      rw [List.isEmpty_iff.mp hc.1, List.append_nil] at s3
      have hr : r = renderH (optComp 72 r).1 ++ (renderM (optComp 77 (optComp 72 r).2).1 ++
          renderS (optSeconds (optComp 77 (optComp 72 r).2).2).1) := by
        rw [renderH_eq, renderM_eq, ← s3, ← s2]; exact s1
      refine ⟨_, _, _, w1, w2, w3, (render_ne_nil_iff _ _ _).mp ?_, by rw [durationBody_some s r hb, ← hr]⟩
      rw [← hr]
      exact fun h0 => hc.2 (List.isEmpty_iff.mpr h0)
    · cases h

theorem parseDurationUs_reject (s : Str) (h : ¬ DurationLex (dropNewline s)) : parseDurationUs s = .error .value := by
  unfold parseDurationUs
  cases hg : durationGroups s with
  | none => rfl
  | some g => exact absurd (durationGroups_sound s g hg) h

/-- the digits of an hours or minutes component, absent when it is zero -/
def compOf (n : Nat) : Option Str := if n > 0 then some (natStr n) else none

/-- `str(us).zfill(6).rstrip('0')` -/
def fracDigits (us : Nat) : Str := rstrip0 (zfill6 (natStr us))

def osOf (sec us : Nat) : Option (Str × Str) :=
  if us > 0 then some (natStr sec, fracDigits us) else if sec > 0 then some (natStr sec, []) else none

theorem zfill6_digits (us : Nat) : ∀ c ∈ zfill6 (natStr us), isDigit c = true :=
  digits_append (digits_zeros _) (natStr_digits us)

theorem digitsVal_zfill6 (us : Nat) : digitsVal (zfill6 (natStr us)) = us := by
  rw [zfill6, digitsVal_zeros_append, digitsVal_natStr]

theorem zfill6_length (us : Nat) (h : us < 1000000) : (zfill6 (natStr us)).length = 6 := by
  rw [zfill6, List.length_append, List.length_replicate]
  exact Nat.sub_add_cancel (natStr_length_le us 6 (by decide) h)

theorem fracDigits_digits (us : Nat) : ∀ c ∈ fracDigits us, isDigit c = true :=
  rstrip0_digits _ (zfill6_digits us)

/-- the value `us` of the padded digits is not `0`, so they are not all stripped -/
theorem fracDigits_ne_nil (us : Nat) (h : 0 < us) : fracDigits us ≠ [] := by
  intro h0
  obtain ⟨j, hj⟩ := rstrip0_spec (zfill6 (natStr us))
  have := digitsVal_zfill6 us
  rw [hj, show rstrip0 (zfill6 (natStr us)) = [] from h0, List.nil_append, digitsVal_zeros] at this
  exact Nat.ne_of_lt h this

theorem compOf_wf (n : Nat) : ∀ d, compOf n = some d → DigitsNE d := by
  intro d hd
  unfold compOf at hd
  split at hd
  · cases hd; exact digitsNE_natStr n
  · cases hd

theorem compOf_val (n : Nat) : ((compOf n).map digitsVal).getD 0 = n := by
  unfold compOf
  split
  · exact digitsVal_natStr n
  · rename_i h; exact (Nat.eq_zero_of_not_pos h).symm

theorem compOf_zero (n : Nat) (h : ¬ (compOf n).isSome) : n = 0 :=
  Nat.eq_zero_of_not_pos fun hp => h (by rw [compOf, if_pos hp]; rfl)

theorem renderC_compOf (t n : Nat) : (if n > 0 then natStr n ++ [t] else []) = renderC t (compOf n) := by
  unfold compOf
  split <;> rfl

theorem osOf_cases (sec us : Nat) :
    (0 < us ∧ osOf sec us = some (natStr sec, fracDigits us)) ∨ (us = 0 ∧ 0 < sec ∧ osOf sec us = some (natStr sec, [])) ∨
      (us = 0 ∧ sec = 0 ∧ osOf sec us = none) := by
  unfold osOf
  by_cases hu : us > 0
  · exact Or.inl ⟨hu, if_pos hu⟩
  · by_cases hs : sec > 0
    · exact Or.inr (Or.inl ⟨Nat.eq_zero_of_not_pos hu, hs, by rw [if_neg hu, if_pos hs]⟩)
    · exact Or.inr (Or.inr ⟨Nat.eq_zero_of_not_pos hu, Nat.eq_zero_of_not_pos hs, by rw [if_neg hu, if_neg hs]⟩)

theorem osOf_wf (sec us : Nat) : ∀ d f, osOf sec us = some (d, f) → DigitsNE d ∧ ∀ c ∈ f, isDigit c = true := by
  intro d f hd
  rcases osOf_cases sec us with ⟨_, e⟩ | ⟨_, _, e⟩ | ⟨_, _, e⟩ <;> rw [e] at hd <;> cases hd
  · exact ⟨digitsNE_natStr sec, fracDigits_digits us⟩
  · exact ⟨digitsNE_natStr sec, fun _ hc => nomatch hc⟩

theorem renderS_osOf (sec us : Nat) :
    (if sec > 0 then natStr sec else []) ++
      (if us > 0 then (if sec = 0 then [48] else []) ++ [46] ++ rstrip0 (zfill6 (natStr us)) ++ [83]
        else if sec > 0 then [83] else []) = renderS (osOf sec us) := by
  rcases osOf_cases sec us with ⟨hu, e⟩ | ⟨hu, hs, e⟩ | ⟨hu, hs, e⟩ <;> rw [e]
  · rw [if_pos hu, renderS, if_neg (fracDigits_ne_nil us hu), fracDigits]
    rcases Nat.eq_zero_or_pos sec with rfl | hs
    · rw [if_neg (Nat.lt_irrefl 0), if_pos rfl, natStr_zero]
      simp only [List.nil_append, List.cons_append]
    · rw [if_pos hs, if_neg (Nat.ne_of_gt hs)]
      simp only [List.nil_append, List.cons_append]
  · rw [hu, if_pos hs, if_neg (Nat.lt_irrefl 0), if_pos hs]; rfl
  · rw [hu, hs]; rfl

/-- the text behind `PT`, unless all components are zero -/
def durTail (total : Nat) : Str :=
  renderH (compOf (total / usPerSec / 60 / 60)) ++ (renderM (compOf (total / usPerSec / 60 % 60)) ++
    renderS (osOf (total / usPerSec % 60) (total % usPerSec)))

theorem durationStringUs_render (total : Nat) :
    durationStringUs total = if durTail total = [] then [80, 84, 48, 83] else 80 :: 84 :: durTail total := by
  unfold durationStringUs durTail
  dsimp only
  rw [renderC_compOf 72, renderC_compOf 77, List.append_assoc, renderS_osOf,
    ← renderH_eq, ← renderM_eq, List.append_assoc, List.append_assoc]
  simp only [List.append_right_eq_self]
  rfl

/-- the float steps of `float('s.f')` + `timedelta(seconds=<float>)` give the exact microsecond count for a value
    with seconds below 60 and at most six fraction digits -/
def FloatStepExact : Prop :=
  ∀ (h m s f : Nat), s < 60 → f < 1000000 →
    timedeltaUs h m (floatOfDecimal (natStr s) (if f = 0 then [48] else fracDigits f)) =
      if (h * 3600 * usPerSec + m * 60 * usPerSec + (s * usPerSec + f)) / usPerDay ≤ maxDays
      then .ok (h * 3600 * usPerSec + m * 60 * usPerSec + (s * usPerSec + f)) else .error .overflow

theorem parseDurationUs_durationStringUs (hfs : FloatStepExact) (total : Nat) (hmax : total / usPerDay ≤ maxDays) :
    parseDurationUs (durationStringUs total) = .ok total := by
  have htotal : total / usPerSec / 60 / 60 * 3600 * usPerSec + total / usPerSec / 60 % 60 * 60 * usPerSec
      + (total / usPerSec % 60 * usPerSec + total % usPerSec) = total := by
    unfold usPerSec; omega
  have key := hfs (total / usPerSec / 60 / 60) (total / usPerSec / 60 % 60) (total / usPerSec % 60) (total % usPerSec)
    (Nat.mod_lt _ (by decide)) (Nat.mod_lt _ (by decide))
  rw [htotal, if_pos hmax] at key
  rw [durationStringUs_render]
  by_cases h0 : durTail total = []
  · -- all components are zero: `PT0S`, whose seconds group `0` is `str(0)`
    have hz := mt (render_ne_nil_iff _ _ _).mpr (not_not_intro h0)
    have hg : durationGroups [80, 84, 48, 83] = some (none, none, some ([48], [])) := by decide
    rcases osOf_cases (total / usPerSec % 60) (total % usPerSec) with ⟨_, e⟩ | ⟨_, _, e⟩ | ⟨hu, hs, _⟩
    · exact absurd (Or.inr (Or.inr (e ▸ rfl))) hz
    · exact absurd (Or.inr (Or.inr (e ▸ rfl))) hz
    · rw [compOf_zero _ fun h => hz (Or.inl h), compOf_zero _ fun h => hz (Or.inr (Or.inl h)), hs, hu, if_pos rfl,
        natStr_zero] at key
      rw [if_pos h0]
      unfold parseDurationUs
      rw [hg]
      exact key
  · rw [if_neg h0]
    unfold parseDurationUs durTail
    rw [durationGroups_render _ _ _ (compOf_wf _) (compOf_wf _) (osOf_wf _ _) ((render_ne_nil_iff _ _ _).mp h0)]
    dsimp only
    rw [compOf_val, compOf_val]
    -- the float argument is the one of `key` in each shape of the seconds group
    rcases osOf_cases (total / usPerSec % 60) (total % usPerSec) with ⟨hu, e⟩ | ⟨hu, hs, e⟩ | ⟨hu, hs, e⟩ <;> rw [e]
    · rw [if_neg (Nat.ne_of_gt hu)] at key
      rw [← key]
      dsimp only
      rw [List.isEmpty_eq_false_iff.mpr (fracDigits_ne_nil _ hu), if_neg Bool.false_ne_true]
    · rw [if_pos hu] at key
      exact key
    · rw [if_pos hu, hs] at key
      exact key

end Sdc.Scalars
