import SdcModel.Scalars
import SdcModel.Proofs.ScalarsStr
/-! `DecimalConverter.to_xml / to_py` at string level (core Lean only): what `format(d, 'f')` and the digit cap write,
    what `decLex` reads, the lexical space of xsd:decimal, decimal lists; values in `Proofs/ScalarsDecVal.lean` -/
namespace Sdc.Scalars

/-- sign prefix written by `format(d, 'f')` -/
def sg (neg : Bool) : Str := if neg then [45] else []

theorem sg_sign (neg : Bool) : sg neg = [] ∨ sg neg = [43] ∨ sg neg = [45] := by
  cases neg
  · exact Or.inl rfl
  · exact Or.inr (Or.inr rfl)

theorem sg_eq_minus (neg : Bool) : decide (sg neg = [45]) = neg := by cases neg <;> rfl

theorem visible_sg (neg : Bool) : Visible (sg neg) := by cases neg <;> decide

theorem sg_no_dot (neg : Bool) (ip : Str) (h : ∀ c ∈ ip, isDigit c = true) : 46 ∉ sg neg ++ ip := by
  intro hm
  rcases List.mem_append.mp hm with hm | hm
  · cases neg
    · cases hm
    · exact absurd (List.mem_singleton.mp hm) (by decide)
  · exact absurd (h 46 hm) (by decide)

theorem stripRev_cons (c : Nat) (r : Str) :
    stripRev (c :: r) = if (c = 48 ∨ c = 46) ∧ 46 ∈ (c :: r) then stripRev r else c :: r := by
  rw [stripRev]

theorem stripRev_no_dot (l : Str) (h : 46 ∉ l) : stripRev l = l := by
  cases l with
  | nil => rfl
  | cons c r => rw [stripRev_cons, if_neg fun hc => h hc.2]

theorem stripRev_dot (l : Str) (h : 46 ∉ l) : stripRev (46 :: l) = l := by
  rw [stripRev_cons, if_pos ⟨Or.inr rfl, List.mem_cons_self⟩, stripRev_no_dot l h]

theorem stripRev_stop (c : Nat) (l : Str) (h1 : c ≠ 48) (h2 : c ≠ 46) : stripRev (c :: l) = c :: l := by
  rw [stripRev_cons, if_neg fun hc => hc.1.elim h1 h2]

theorem stripRev_zeros (j : Nat) (l : Str) (h : 46 ∈ l) : stripRev (List.replicate j 48 ++ l) = stripRev l := by
  induction j with
  | zero => rfl
  | succ j ih =>
    rw [List.replicate_succ, List.cons_append, stripRev_cons,
      if_pos ⟨Or.inl rfl, List.mem_cons_of_mem _ (List.mem_append_right _ h)⟩, ih]

theorem strip_spec (pre fp : Str) (hpre : 46 ∉ pre) (hfp : ∀ c ∈ fp, isDigit c = true) :
    (stripRev (pre ++ [46] ++ fp).reverse).reverse = pre ++ (if rstrip0 fp = [] then [] else 46 :: rstrip0 fp) := by
  have hpre' : 46 ∉ pre.reverse := fun h => hpre (List.mem_reverse.mp h)
  rw [List.reverse_append, List.reverse_append, List.reverse_singleton, List.singleton_append,
    ← List.takeWhile_append_dropWhile (p := (· == 48)) (l := fp.reverse), takeWhile_zeros, List.append_assoc,
    stripRev_zeros _ _ (List.mem_append_right _ List.mem_cons_self), rstrip0]
  cases hd : fp.reverse.dropWhile (· == 48) with
  | nil => rw [List.nil_append, stripRev_dot _ hpre', List.reverse_reverse, List.reverse_nil, if_pos rfl, List.append_nil]
  | cons c rest =>
    have hc48 : c ≠ 48 := by
      have := List.head_dropWhile_not (· == 48) (l := fp.reverse) (by rw [hd]; exact List.cons_ne_nil _ _)
      simp only [hd, List.head_cons] at this
      exact ne_of_beq_false this
    have hcd : isDigit c = true :=
      hfp c (List.mem_reverse.mp ((List.dropWhile_sublist _).subset (hd ▸ List.mem_cons_self)))
    rw [List.cons_append, stripRev_stop c _ hc48 (ne_of_isDigit hcd (by decide)), if_neg (by simp),
      ← List.cons_append, List.reverse_append, List.reverse_cons, List.reverse_reverse, List.append_assoc]
    rfl

theorem lstrip_len_sg (neg : Bool) (ip : Str) : (lstripSignZero (sg neg ++ ip)).length ≤ ip.length := by
  cases neg
  · exact (List.dropWhile_sublist _).length_le
  · exact (List.dropWhile_sublist _ (l := ip)).length_le

theorem lstrip_zero (neg : Bool) : lstripSignZero (sg neg ++ [48]) = [] := by
  cases neg <;> rfl

theorem limitDigits_no_dot (x : Str) (h : 46 ∉ x) : limitDigits x = x := if_neg h

theorem limitDigits_spec (pre fp : Str) (hpre : 46 ∉ pre) (hfp : ∀ c ∈ fp, isDigit c = true) (hne : fp ≠ [])
    (hcap : (lstripSignZero pre).length + fp.length ≤ 18) :
    limitDigits (pre ++ [46] ++ fp) = pre ++ (if rstrip0 fp = [] then [] else 46 :: rstrip0 fp) := by
  have hsplit := span_cons (p := fun c => decide (c ≠ 46)) pre 46 fp
    (fun c hc => decide_eq_true fun h => hpre (h ▸ hc)) (by decide)
  have hslice : pySliceTo fp (18 - ((lstripSignZero pre).length : Int)) = fp := by
    unfold pySliceTo
    rw [if_pos (by omega)]
    exact List.take_of_length_le (by omega)
  have hemp : fp.isEmpty = false := List.isEmpty_eq_false_iff.mpr hne
  rw [← strip_spec pre fp hpre hfp]
  unfold limitDigits
  rw [if_pos (List.mem_append_left _ (List.mem_append_right _ List.mem_cons_self))]
  dsimp only
  rw [List.append_assoc, List.singleton_append, hsplit.1, hsplit.2, List.drop_succ_cons, List.drop_zero, hslice, hemp,
    if_neg Bool.false_ne_true, List.append_assoc, List.singleton_append]

theorem decFormatF_nonneg (d : Dec) (h : 0 ≤ d.exp) :
    decFormatF d = sg d.neg ++ (if d.coeff = 0 then [48] else natStr d.coeff ++ List.replicate d.exp.toNat 48) := by
  unfold decFormatF sg
  rw [if_pos h]
  split
  · rfl
  · exact List.append_assoc _ _ _

/-- shape of `format(d, 'f')` for a negative exponent: the digits of the coefficient with the point `-exp` places
    from the right, zeros filled in on the left where they do not reach that far -/
theorem decFormatF_frac (d : Dec) (h : d.exp < 0) :
    ∃ ip fp, decFormatF d = sg d.neg ++ ip ++ [46] ++ fp ∧ ip ≠ [] ∧ (∀ c ∈ ip, isDigit c = true) ∧
      (∀ c ∈ fp, isDigit c = true) ∧ fp.length = (-d.exp).toNat ∧ digitsVal (ip ++ fp) = d.coeff ∧
      (lstripSignZero (sg d.neg ++ ip)).length + fp.length ≤ max (natStr d.coeff).length (-d.exp).toNat := by
  have hd := natStr_digits d.coeff
  have hv := digitsVal_natStr d.coeff
  unfold decFormatF
  rw [if_neg (Int.not_le.mpr h)]
  dsimp only
  generalize (-d.exp).toNat = k
  generalize natStr d.coeff = ds at hd hv ⊢
  by_cases hlen : k < ds.length
  · have hk : ds.length - (ds.length - k) = k := Nat.sub_sub_self (Nat.le_of_lt hlen)
    have hip : (ds.take (ds.length - k)).length = ds.length - k :=
      List.length_take_of_le (Nat.sub_le _ _)
    refine ⟨ds.take (ds.length - k), ds.drop (ds.length - k), if_pos hlen, ?_,
      fun c hc => hd c (List.mem_of_mem_take hc), fun c hc => hd c (List.mem_of_mem_drop hc), ?_, ?_, ?_⟩
    · exact List.ne_nil_of_length_pos (by rw [hip]; exact Nat.sub_pos_of_lt hlen)
    · rw [List.length_drop, hk]
    · rw [List.take_append_drop, hv]
    · rw [List.length_drop, hk]
      calc _ ≤ ds.length - k + k := Nat.add_le_add_right (Nat.le_trans (lstrip_len_sg d.neg _) (Nat.le_of_eq hip)) k
        _ = ds.length := Nat.sub_add_cancel (Nat.le_of_lt hlen)
        _ ≤ _ := Nat.le_max_left _ _
  · have hfp : (List.replicate (k - ds.length) 48 ++ ds).length = k := by
      rw [List.length_append, List.length_replicate, Nat.sub_add_cancel (Nat.le_of_not_lt hlen)]
    refine ⟨[48], List.replicate (k - ds.length) 48 ++ ds, ?_, List.cons_ne_nil _ _, digits_zeros 1,
      digits_append (digits_zeros _) hd, hfp, ?_, ?_⟩
    · rw [if_neg hlen]; simp only [sg, List.append_assoc, List.cons_append, List.nil_append]
    · exact (digitsVal_zeros_append 1 _).trans ((digitsVal_zeros_append _ ds).trans hv)
    · rw [lstrip_zero, hfp, List.length_nil, Nat.zero_add]
      exact Nat.le_max_right _ _

/-- lexical space of xsd:decimal: optional sign, ASCII digits with at most one `.`, at least one digit, no exponent -/
def DecimalLex (t : Str) : Prop :=
  ∃ sgn ip fr, (sgn = [] ∨ sgn = [43] ∨ sgn = [45]) ∧ (∀ c ∈ ip, isDigit c = true) ∧ (∀ c ∈ fr, isDigit c = true) ∧
    ((t = sgn ++ ip ∧ ip ≠ []) ∨ (t = sgn ++ ip ++ 46 :: fr ∧ (ip ≠ [] ∨ fr ≠ [])))

theorem decLex_int (sgn ip : Str) (hsg : sgn = [] ∨ sgn = [43] ∨ sgn = [45]) (hdi : ∀ c ∈ ip, isDigit c = true)
    (hne : ip ≠ []) : decLex (sgn ++ ip) = some (decide (sgn = [45]), ip, []) := by
  unfold decLex
  dsimp only
  rw [splitSign_append sgn ip hsg (head_digits_not_sign hdi), (span_all ip hdi).1, (span_all ip hdi).2,
    List.isEmpty_eq_false_iff.mpr hne]
  rfl

theorem decLex_frac (sgn ip fr : Str) (hsg : sgn = [] ∨ sgn = [43] ∨ sgn = [45]) (hdi : ∀ c ∈ ip, isDigit c = true)
    (hdf : ∀ c ∈ fr, isDigit c = true) (hne : ip ≠ [] ∨ fr ≠ []) :
    decLex (sgn ++ (ip ++ 46 :: fr)) = some (decide (sgn = [45]), ip, fr) := by
  have hhead : ∀ c, (ip ++ 46 :: fr).head? = some c → c ≠ 45 ∧ c ≠ 43 := by
    cases ip with
    | nil => intro c hc; cases hc; decide
    | cons a r => intro c hc; exact head_digits_not_sign hdi c hc
  have hsp := span_cons ip 46 fr hdi (by decide)
  have hnn : ¬ (ip.isEmpty = true ∧ fr.isEmpty = true) := fun h =>
    hne.elim (fun hi => hi (List.isEmpty_iff.mp h.1)) (fun hf => hf (List.isEmpty_iff.mp h.2))
  unfold decLex
  dsimp only
  rw [splitSign_append sgn _ hsg hhead, hsp.1, hsp.2]
  exact if_pos ⟨rfl, List.all_eq_true.mpr hdf, hnn⟩

theorem decLex_some (t : Str) (neg : Bool) (ip fr : Str) (h : decLex t = some (neg, ip, fr)) :
    ∃ sgn, (sgn = [] ∨ sgn = [43] ∨ sgn = [45]) ∧ (∀ c ∈ ip, isDigit c = true) ∧ (∀ c ∈ fr, isDigit c = true) ∧
      ((t = sgn ++ ip ∧ fr = [] ∧ ip ≠ []) ∨ (t = sgn ++ ip ++ 46 :: fr ∧ (ip ≠ [] ∨ fr ≠ []))) := by
  obtain ⟨sgn, ht, hsg⟩ := splitSign_spec t
  have hsplit := List.takeWhile_append_dropWhile (p := isDigit) (l := (splitSign t).2)
  have htw := mem_takeWhile (p := isDigit) (splitSign t).2
  unfold decLex at h
  dsimp only at h
  refine ⟨sgn, hsg, ?_⟩
  cases hdw : (splitSign t).2.dropWhile isDigit with
  | nil =>
    rw [hdw] at h hsplit
    dsimp only at h
    split at h
    · cases h
    · rename_i hne
      cases h
      rw [List.append_nil] at hsplit
      exact ⟨htw, fun _ hc => (nomatch hc), Or.inl ⟨by rw [hsplit]; exact ht, rfl,
        fun h0 => hne (List.isEmpty_iff.mpr h0)⟩⟩
  | cons c rest =>
    rw [hdw] at h hsplit
    dsimp only at h
    split at h
    · rename_i hc
      cases h
      obtain ⟨rfl, hall, hnn⟩ := hc
      refine ⟨htw, List.all_eq_true.mp hall, Or.inr ⟨by rw [List.append_assoc, hsplit]; exact ht, ?_⟩⟩
      by_cases hi : List.takeWhile isDigit (splitSign t).2 = []
      · exact Or.inr fun hr => hnn ⟨List.isEmpty_iff.mpr hi, List.isEmpty_iff.mpr hr⟩
      · exact Or.inl hi
    · cases h

theorem decLex_sound (t : Str) (neg : Bool) (ip fr : Str) (h : decLex t = some (neg, ip, fr)) : DecimalLex t := by
  obtain ⟨sgn, hsg, hdi, hdf, hshape⟩ := decLex_some t neg ip fr h
  exact ⟨sgn, ip, fr, hsg, hdi, hdf, hshape.imp (fun h => ⟨h.1, h.2.2⟩) id⟩

theorem decLex_complete (t : Str) (h : DecimalLex t) : ∃ r, decLex t = some r := by
  obtain ⟨sgn, ip, fr, hsg, hdi, hdf, ⟨rfl, hne⟩ | ⟨rfl, hne⟩⟩ := h
  · exact ⟨_, decLex_int sgn ip hsg hdi hne⟩
  · rw [List.append_assoc]; exact ⟨_, decLex_frac sgn ip fr hsg hdi hdf hne⟩

theorem decToPy_plain (neg : Bool) (ip fr : Str) (hip : ip ≠ []) (hdi : ∀ c ∈ ip, isDigit c = true)
    (hdf : ∀ c ∈ fr, isDigit c = true) :
    decToPy (sg neg ++ ip ++ (if fr = [] then [] else 46 :: fr)) = .ok ⟨neg, digitsVal (ip ++ fr), -(fr.length : Int)⟩ := by
  have hv : Visible (sg neg ++ ip ++ (if fr = [] then [] else 46 :: fr)) := by
    refine visible_append (visible_append (visible_sg neg) (visible_digits hdi)) ?_
    split
    · exact fun _ hc => nomatch hc
    · exact visible_cons (by decide) (visible_digits hdf)
  unfold decToPy
  rw [xmlStrip_id _ hv, List.append_assoc]
  by_cases hfr : fr = []
  · rw [if_pos hfr, List.append_nil, decLex_int _ ip (sg_sign neg) hdi hip, sg_eq_minus, hfr]
  · rw [if_neg hfr, decLex_frac _ ip fr (sg_sign neg) hdi hdf (Or.inl hip), sg_eq_minus]

theorem decToPy_ok_iff (s : Str) : (∃ d, decToPy s = .ok d) ↔ DecimalLex (xmlStrip s) := by
  unfold decToPy
  constructor
  · rintro ⟨d, h⟩
    cases hl : decLex (xmlStrip s) with
    | none => rw [hl] at h; cases h
    | some r => exact decLex_sound _ _ _ _ hl
  · intro h
    obtain ⟨r, hr⟩ := decLex_complete _ h
    rw [hr]; exact ⟨_, rfl⟩

theorem decToPy_reject (s : Str) (h : ¬ DecimalLex (xmlStrip s)) : decToPy s = .error .value := by
  unfold decToPy
  cases hl : decLex (xmlStrip s) with
  | none => rfl
  | some r => exact absurd (decLex_sound _ _ _ _ hl) h

theorem decToPy_err (t : Str) (e : Err) (h : decToPy t = .error e) : e = .value := by
  unfold decToPy at h
  split at h
  · cases h
  · cases h; rfl

theorem decItems_reject (ts : List Str) (t : Str) (ht : t ∈ ts) (h : ¬ DecimalLex (xmlStrip t)) :
    decItems ts = .error .value := by
  induction ts with
  | nil => cases ht
  | cons a ts ih =>
    rw [decItems]
    cases ha : decToPy a with
    | error e => rw [decToPy_err a e ha]
    | ok d =>
      dsimp only
      rcases List.mem_cons.mp ht with rfl | ht'
      · exact absurd ((decToPy_ok_iff t).mp ⟨d, ha⟩) h
      · rw [ih ht']

theorem decItems_ok (ts : List Str) (ds : List Dec) (h : decItems ts = .ok ds) :
    ds.length = ts.length ∧ ∀ i (hi : i < ts.length) (hj : i < ds.length), decToPy ts[i] = .ok ds[i] := by
  induction ts generalizing ds with
  | nil =>
    cases h
    exact ⟨rfl, fun i hi => absurd hi (Nat.not_lt_zero i)⟩
  | cons a ts ih =>
    rw [decItems] at h
    cases ha : decToPy a with
    | error e => rw [ha] at h; cases h
    | ok d =>
      cases hr : decItems ts with
      | error e => rw [ha, hr] at h; cases h
      | ok ds' =>
        rw [ha, hr] at h
        cases h
        obtain ⟨hl, hi⟩ := ih ds' hr
        refine ⟨congrArg (· + 1) hl, fun i h1 h2 => ?_⟩
        cases i with
        | zero => exact ha
        | succ j => exact hi j (Nat.lt_of_succ_lt_succ h1) (Nat.lt_of_succ_lt_succ h2)

theorem xmlStrip_sublist (s : Str) : (xmlStrip s).Sublist s := by
  have h := (List.dropWhile_sublist isWs (l := (s.dropWhile isWs).reverse)).reverse
  rw [List.reverse_reverse] at h
  exact h.trans (List.dropWhile_sublist _)

theorem decToPy_bounds (s : Str) (d : Dec) (h : decToPy s = .ok d) :
    d.coeff < 10 ^ (s.filter isDigit).length ∧ -((s.filter isDigit).length : Int) ≤ d.exp ∧ d.exp ≤ 0 := by
  unfold decToPy at h
  split at h
  · rename_i neg ip fr hl
    cases h
    obtain ⟨sgn, _, hdi, hdf, hshape⟩ := decLex_some _ _ _ _ hl
    have hall := digits_append hdi hdf
    have hsub : (ip ++ fr).Sublist (xmlStrip s) := by
      rcases hshape with ⟨h1, h2, _⟩ | ⟨h1, _⟩
      · rw [h1, h2, List.append_nil]; exact List.sublist_append_right _ _
      · rw [h1, List.append_assoc]
        exact (List.Sublist.append_left (List.sublist_cons_self _ _) _).trans (List.sublist_append_right _ _)
    have hlen : ip.length + fr.length ≤ (s.filter isDigit).length := by
      have := ((hsub.trans (xmlStrip_sublist s)).filter isDigit).length_le
      rwa [List.filter_eq_self.mpr hall, List.length_append] at this
    refine ⟨Nat.lt_of_lt_of_le (digitsVal_lt _ hall) (Nat.pow_le_pow_right (by decide) ?_), ?_, ?_⟩
    · rw [List.length_append]; exact hlen
    · exact Int.neg_le_neg (Int.ofNat_le.mpr (Nat.le_trans (Nat.le_add_left _ _) hlen))
    · exact Int.neg_nonpos_of_nonneg (Int.natCast_nonneg _)
  · cases h

end Sdc.Scalars
