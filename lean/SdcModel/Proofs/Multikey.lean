import SdcModel.Multikey
/-!
Proofs for C11 (`Properties/C11.lean`). Core Lean only.

`appendAll` and `rmAll` rewrite the list of `(i, k)` once per occurrence of `(i, k)` in the reference list
(`foldl_idx`); everything `_mk_indices` and `_rm_indices` do to a table follows from these two closed forms.
`Filed` says that index lists and `_object_ids` agree; it does not mention the set of stored objects, so it is
kept by filing and un-filing alone, and `TInv` is `Filed` plus the bookkeeping of `_objects`.
-/
namespace Sdc.Multikey

@[simp] theorem append_objs (t : Table) (i k o) : (t.append i k o).objs = t.objs := rfl
@[simp] theorem append_refs (t : Table) (i k o) : (t.append i k o).refs = t.refs := rfl
@[simp] theorem rmKey_objs (t : Table) (i k o) : (t.rmKey i k o).objs = t.objs := rfl
@[simp] theorem rmKey_refs (t : Table) (i k o) : (t.rmKey i k o).refs = t.refs := rfl
@[simp] theorem setRefs_objs (t : Table) (o r) : (t.setRefs o r).objs = t.objs := rfl
@[simp] theorem setRefs_idx (t : Table) (o r) : (t.setRefs o r).idx = t.idx := rfl

theorem Table.ext' {t t' : Table} (h1 : t.objs = t'.objs) (h2 : ∀ i k, t.idx i k = t'.idx i k)
    (h3 : t.refs = t'.refs) : t = t' := by
  cases t; cases t'
  cases h1; cases h3
  cases (funext fun i => funext fun k => h2 i k : _ = _)
  rfl

def iter {α : Type} (g : α → α) : Nat → α → α
  | 0, a => a
  | n+1, a => iter g n (g a)

theorem count_pair_cons (i0 : Nat) (k0 : Key) (rest : List (Nat × Key)) (i : Nat) (k : Key) :
    ((i0, k0) :: rest).count (i, k) = rest.count (i, k) + if i = i0 ∧ k = k0 then 1 else 0 := by
  simp only [List.count_cons, beq_iff_eq, Prod.mk.injEq, @eq_comm _ i0, @eq_comm _ k0]

theorem count_map_pair (i : Nat) (ks : List Key) (i' : Nat) (k' : Key) :
    (ks.map fun k => (i, k)).count (i', k') = if i' = i then ks.count k' else 0 := by
  induction ks with
  | nil => exact (ite_self 0).symm
  | cons k ks ih =>
    rw [List.map_cons, count_pair_cons, ih, List.count_cons]
    by_cases h : i' = i
    · simp only [h, true_and, if_true, beq_iff_eq, @eq_comm _ k]
    · simp only [h, false_and, if_false]

theorem foldl_idx (f : Table → Nat → Key → Table) (g : List ObjId → List ObjId)
    (hf : ∀ t i k, f t i k =
      { t with idx := fun i' k' => if i' = i ∧ k' = k then g (t.idx i' k') else t.idx i' k' })
    (refs : List (Nat × Key)) (t : Table) :
    refs.foldl (fun t ik => f t ik.1 ik.2) t =
      { t with idx := fun i k => iter g (refs.count (i, k)) (t.idx i k) } := by
  induction refs generalizing t with
  | nil => rfl
  | cons ik rest ih =>
    obtain ⟨i0, k0⟩ := ik
    rw [List.foldl_cons, ih, hf]
    congr 1
    funext i k
    show iter g _ (if i = i0 ∧ k = k0 then g (t.idx i k) else t.idx i k) = _
    rw [count_pair_cons]
    split <;> rfl

theorem iter_snoc (o : ObjId) (n : Nat) (l : List ObjId) :
    iter (· ++ [o]) n l = l ++ List.replicate n o := by
  induction n generalizing l with
  | zero => exact (List.append_nil l).symm
  | succ n ih => rw [iter, ih, List.append_assoc]; rfl

theorem iter_erase_count_self (o : ObjId) (n : Nat) (l : List ObjId) :
    (iter (·.erase o) n l).count o = l.count o - n := by
  induction n generalizing l with
  | zero => rfl
  | succ n ih => rw [iter, ih, List.count_erase_self, Nat.sub_sub, Nat.add_comm]

theorem iter_erase_count_of_ne {o o' : ObjId} (h : o' ≠ o) (n : Nat) (l : List ObjId) :
    (iter (·.erase o) n l).count o' = l.count o' := by
  induction n generalizing l with
  | zero => rfl
  | succ n ih => rw [iter, ih, List.count_erase_of_ne h]

theorem iter_erase_sublist (o : ObjId) (n : Nat) (l : List ObjId) : (iter (·.erase o) n l).Sublist l := by
  induction n generalizing l with
  | zero => exact List.Sublist.refl l
  | succ n ih => exact (ih _).trans List.erase_sublist

theorem iter_erase_append_replicate (o : ObjId) (n : Nat) (l : List ObjId) (h : o ∉ l) :
    iter (·.erase o) n (l ++ List.replicate n o) = l := by
  induction n with
  | zero => exact List.append_nil l
  | succ n ih => rw [iter, List.erase_append_right _ h, List.replicate_succ, List.erase_cons_head, ih]

theorem count_replicate_add_ite {l : List ObjId} {a : ObjId} (ha : a ∉ l) (f : ObjId → Nat) (o : ObjId) :
    (List.replicate (f a) a).count o + (if o ∈ l then f o else 0) = if o ∈ a :: l then f o else 0 := by
  by_cases e : o = a
  · subst e
    rw [List.count_replicate_self, if_neg ha, if_pos List.mem_cons_self]; rfl
  · rw [List.count_eq_zero.mpr fun hm => e (List.eq_of_mem_replicate hm), Nat.zero_add]
    by_cases hm : o ∈ l
    · rw [if_pos hm, if_pos (List.mem_cons_of_mem a hm)]
    · rw [if_neg hm, if_neg fun h => (List.mem_cons.mp h).elim e hm]

theorem appendAll_eq (t : Table) (o : ObjId) (refs : List (Nat × Key)) :
    appendAll t o refs = { t with idx := fun i k => t.idx i k ++ List.replicate (refs.count (i, k)) o } := by
  rw [appendAll, foldl_idx (fun t i k => t.append i k o) (· ++ [o]) (fun _ _ _ => rfl)]
  simp only [iter_snoc]

theorem appendAll_objs (t : Table) (o : ObjId) (refs : List (Nat × Key)) : (appendAll t o refs).objs = t.objs := by
  rw [appendAll_eq]

theorem appendAll_refs (t : Table) (o : ObjId) (refs : List (Nat × Key)) : (appendAll t o refs).refs = t.refs := by
  rw [appendAll_eq]

theorem appendAll_idx (t : Table) (o : ObjId) (refs : List (Nat × Key)) (i : Nat) (k : Key) :
    (appendAll t o refs).idx i k = t.idx i k ++ List.replicate (refs.count (i, k)) o := by
  rw [appendAll_eq]

theorem appendAll_append (t : Table) (o : ObjId) (a b : List (Nat × Key)) :
    appendAll t o (a ++ b) = appendAll (appendAll t o a) o b :=
  List.foldl_append

theorem rmAll_eq (t : Table) (o : ObjId) (refs : List (Nat × Key)) :
    rmAll t o refs = { t with idx := fun i k => iter (·.erase o) (refs.count (i, k)) (t.idx i k) } :=
  foldl_idx (fun t i k => t.rmKey i k o) (·.erase o) (fun _ _ _ => rfl) refs t

/-- the roll-back of `_mk_indices` (needs: `o` was in none of the lists) -/
theorem rmAll_appendAll {t : Table} {o : ObjId} (hno : ∀ i k, o ∉ t.idx i k) (refs : List (Nat × Key)) :
    rmAll (appendAll t o refs) o refs = t := by
  rw [appendAll_eq, rmAll_eq]
  exact Table.ext' rfl (fun i k => iter_erase_append_replicate o _ _ (hno i k)) rfl

theorem rmIndices_eq (t : Table) (o : ObjId) :
    rmIndices t o =
      { objs := t.objs
        idx := fun i k => iter (·.erase o) (((t.refs o).getD []).count (i, k)) (t.idx i k)
        refs := fun o' => if o' = o then none else t.refs o' } := by
  rw [rmIndices, rmAll_eq]; rfl

theorem refile_eq (t : Table) (o : ObjId) (refs : List (Nat × Key)) :
    (appendAll (rmIndices t o) o refs).setRefs o (some refs) =
      { objs := t.objs
        idx := fun i k => iter (·.erase o) (((t.refs o).getD []).count (i, k)) (t.idx i k) ++
          List.replicate (refs.count (i, k)) o
        refs := fun o' => if o' = o then some refs else t.refs o' } := by
  rw [appendAll_eq, rmIndices_eq, Table.setRefs]
  congr 1
  funext o'
  by_cases e : o' = o
  · rw [if_pos e, if_pos e]
  · rw [if_neg e, if_neg e]; exact if_neg e

theorem resolve_error {d : IdxDef} {r : KeyRes} {e : Err} (h : resolve d r = .error e) :
    e = .valueError ∧ d.kind = .unique ∧ ∃ ks, r = .many ks := by
  cases r with
  | attrErr => cases h
  | none => rcases d with ⟨_ | _ | _, _ | _⟩ <;> cases h
  | one k => rcases d with ⟨_ | _ | _, _⟩ <;> cases h
  | seq w es => rcases d with ⟨_ | _ | _, _⟩ <;> cases h
  | many ks => rcases d with ⟨_ | _ | _, _⟩ <;> cases h; exact ⟨rfl, rfl, ks, rfl⟩

theorem resolve_many {d : IdxDef} {r : KeyRes} {ks : List Key} (h : resolve d r = .many ks) : d.kind = .oneN := by
  rcases d with ⟨_ | _ | _, b⟩
  · cases r <;> try cases h
    cases b <;> cases h
  · cases r <;> try cases h
    cases b <;> cases h
  · rfl

theorem isUnique_of_get {defs : List IdxDef} {i : Nat} {d : IdxDef} (h : defs[i]? = some d) :
    isUnique defs i = true ↔ d.kind = .unique := by
  simp only [isUnique, h, beq_iff_eq]

theorem keysOf_of_get {defs : List IdxDef} {i : Nat} {d : IdxDef} (h : defs[i]? = some d) (rs : List KeyRes) :
    keysOf defs i rs = keysOfRes d (keyResAt rs i) := by
  simp only [keysOf, h]

theorem keysOf_out (defs : List IdxDef) (i : Nat) (rs : List KeyRes) (h : defs.length ≤ i) : keysOf defs i rs = [] := by
  simp only [keysOf, List.getElem?_eq_none h]

/-- why `mk_keys` of index `i` raises: the key is taken (`KeyError`), the key function returned a list (`ValueError`) -/
def KeyRejected (d : IdxDef) (t : Table) (i : Nat) (r : KeyRes) (e : Err) : Prop :=
  d.kind = .unique ∧ ((e = .keyError ∧ ∃ k, k ∈ keysOfRes d r ∧ t.idx i k ≠ []) ∨ (e = .valueError ∧ ∃ ks, r = .many ks))

theorem mkKeys_cases (d : IdxDef) (t : Table) (i : Nat) (o : ObjId) (r : KeyRes) :
    (mkKeys d t i o r = .ok (appendAll t o ((keysOfRes d r).map fun k => (i, k)), keysOfRes d r) ∧
      (d.kind = .unique → keysOfRes d r = [] ∨ ∃ k, keysOfRes d r = [k] ∧ t.idx i k = [])) ∨
    ∃ e, mkKeys d t i o r = .error e ∧ KeyRejected d t i r e := by
  unfold KeyRejected mkKeys keysOfRes
  cases hr : resolve d r with
  | skip => exact .inl ⟨rfl, fun _ => .inl rfl⟩
  | error e =>
    obtain ⟨rfl, hu, hks⟩ := resolve_error hr
    exact .inr ⟨_, rfl, hu, .inr ⟨rfl, hks⟩⟩
  | many ks => exact .inl ⟨rfl, fun hu => by rw [resolve_many hr] at hu; cases hu⟩
  | one k =>
    dsimp only
    by_cases hu : d.kind = .unique
    · by_cases hf : t.idx i k = []
      · exact .inl ⟨by rw [if_pos hu, if_neg (not_not_intro hf)]; rfl, fun _ => .inr ⟨k, rfl, hf⟩⟩
      · exact .inr ⟨_, by rw [if_pos hu, if_pos hf], hu, .inl ⟨rfl, k, List.mem_singleton_self k, hf⟩⟩
    · exact .inl ⟨by rw [if_neg hu]; rfl, fun h => absurd h hu⟩

theorem mkKeys_ok {d : IdxDef} {t t' : Table} {i : Nat} {o : ObjId} {r : KeyRes} {ks : List Key}
    (h : mkKeys d t i o r = .ok (t', ks)) :
    ks = keysOfRes d r ∧ t' = appendAll t o (ks.map fun k => (i, k)) ∧
    (d.kind = .unique → ∀ k', (t.idx i k').length ≤ 1 → (t'.idx i k').length ≤ 1) := by
  rcases mkKeys_cases d t i o r with ⟨e, hu⟩ | ⟨_, e, _⟩ <;> rw [e] at h <;> cases h
  refine ⟨rfl, rfl, fun hu' k' hle => ?_⟩
  rcases hu hu' with e | ⟨k, e, hf⟩ <;> rw [e]
  · exact hle
  · show ((t.append i k o).idx i k').length ≤ 1
    by_cases hk : k' = k
    · rw [hk, show (t.append i k o).idx i k = t.idx i k ++ [o] from if_pos ⟨rfl, rfl⟩, hf]
      exact Nat.le_refl 1
    · rw [show (t.append i k o).idx i k' = t.idx i k' from if_neg fun h => hk h.2]
      exact hle

theorem mkKeys_idx {d : IdxDef} {t t' : Table} {i : Nat} {o : ObjId} {r : KeyRes} {ks : List Key}
    (h : mkKeys d t i o r = .ok (t', ks)) (i' : Nat) (k' : Key) :
    t'.idx i' k' = t.idx i' k' ++ List.replicate (if i' = i then ks.count k' else 0) o := by
  rw [(mkKeys_ok h).2.1, appendAll_idx, count_map_pair]

theorem mkKeys_err {d : IdxDef} {t : Table} {i : Nat} {o : ObjId} {r : KeyRes} {e : Err}
    (h : mkKeys d t i o r = .error e) : KeyRejected d t i r e := by
  rcases mkKeys_cases d t i o r with ⟨e', _⟩ | ⟨_, e', hr⟩ <;> rw [e'] at h <;> cases h
  exact hr

/-- what the loop of `_mk_indices` over the indices `i, i+1, …` does to table `t`, stated for its result `r` -/
structure MkLoopSpec (defs : List IdxDef) (o : ObjId) (rs : List KeyRes) (n i : Nat) (t : Table)
    (r : Table × List (Nat × Key) × Option Err) : Prop where
  table : r.1 = appendAll t o r.2.1
  refs : i + n = defs.length → r.2.2 = none → r.2.1 = allKeysFrom defs rs n i
  uniq : (∀ i k, isUnique defs i = true → (t.idx i k).length ≤ 1) →
    ∀ i k, isUnique defs i = true → (r.1.idx i k).length ≤ 1
  /-- when it raises, some index `j` rejects the object, judged on the table as it was before -/
  err : ∀ e, r.2.2 = some e → ∃ j d, i ≤ j ∧ defs[j]? = some d ∧ KeyRejected d t j (keyResAt rs j) e

theorem mkLoop_spec (defs : List IdxDef) (o : ObjId) (rs : List KeyRes) (n i : Nat) (t : Table) :
    MkLoopSpec defs o rs n i t (mkLoop defs o rs n i t) := by
  fun_induction mkLoop defs o rs n i t with
  | case1 => exact ⟨rfl, fun _ _ => rfl, id, nofun⟩
  | case2 n i t hd =>
    refine ⟨rfl, fun hn _ => ?_, id, nofun⟩
    exact absurd (hn ▸ Nat.lt_add_of_pos_right (Nat.succ_pos n)) (Nat.not_lt.mpr (List.getElem?_eq_none_iff.mp hd))
  | case3 n i t d hd e hk =>
    exact ⟨rfl, fun _ => nofun, id, fun _ h => by cases h; exact ⟨i, d, Nat.le_refl i, hd, mkKeys_err hk⟩⟩
  | case4 n i t d hd t' ks hk r ih =>
    obtain ⟨hks, ht', hu⟩ := mkKeys_ok hk
    have hidx : ∀ j k, j ≠ i → t'.idx j k = t.idx j k := fun j k hj => by
      rw [mkKeys_idx hk, if_neg hj, List.replicate_zero, List.append_nil]
    refine ⟨?_, fun hn h => ?_, fun h => ih.uniq fun j k hj => ?_, fun e h => ?_⟩
    · show r.1 = appendAll t o (_ ++ r.2.1)
      rw [ih.table, appendAll_append, ← ht']
    · show _ ++ r.2.1 = _
      rw [ih.refs ((Nat.succ_add i n).trans hn) h, allKeysFrom, keysOf_of_get hd, hks]
    · by_cases e : j = i
      · rw [e] at hj ⊢
        exact hu ((isUnique_of_get hd).mp hj) k (h i k hj)
      · rw [hidx j k e]; exact h j k hj
    · obtain ⟨j, d', hij, hd', hu', hc⟩ := ih.err e h
      refine ⟨j, d', Nat.le_of_succ_le hij, hd', hu', hc.imp_left fun ⟨he, k, hk', hne⟩ => ⟨he, k, hk', ?_⟩⟩
      rwa [hidx j k (Nat.ne_of_gt hij)] at hne

/-- the index lists agree with `_object_ids`: an object is in the list of `(i, k)` as often as `(i, k)` is in its entry -/
def Filed (t : Table) : Prop :=
  ∀ i k o, (t.idx i k).count o = ((t.refs o).getD []).count (i, k)

theorem Filed.not_mem {t : Table} (h : Filed t) {o : ObjId} (hr : t.refs o = none) (i : Nat) (k : Key) :
    o ∉ t.idx i k := by
  apply List.count_eq_zero.mp
  rw [h, hr]; rfl

theorem Filed.perm {t t' : Table} (h : Filed t) (h' : Filed t') (hr : ∀ o, t'.refs o = t.refs o) (i : Nat) (k : Key) :
    (t'.idx i k).Perm (t.idx i k) :=
  List.perm_iff_count.mpr fun o => by rw [h', h, hr]

theorem Filed.rmIndices {t : Table} (h : Filed t) (o : ObjId) : Filed (rmIndices t o) := by
  intro i k o'
  rw [rmIndices_eq]
  show (iter (·.erase o) _ (t.idx i k)).count o' = ((if o' = o then none else t.refs o').getD []).count (i, k)
  by_cases e : o' = o
  · rw [if_pos e, e, iter_erase_count_self, h, Nat.sub_self]; rfl
  · rw [if_neg e, iter_erase_count_of_ne e, h]

theorem Filed.file {t : Table} (h : Filed t) {o : ObjId} (hro : t.refs o = none) (refs : List (Nat × Key)) :
    Filed ((appendAll t o refs).setRefs o (some refs)) := by
  intro i k o'
  show ((appendAll t o refs).idx i k).count o' =
    ((if o' = o then some refs else (appendAll t o refs).refs o').getD []).count (i, k)
  rw [appendAll_idx, appendAll_refs, List.count_append, h]
  by_cases e : o' = o
  · rw [if_pos e, e, hro, List.count_replicate_self]; exact Nat.zero_add _
  · rw [if_neg e, List.count_eq_zero.mpr fun hm => e (List.eq_of_mem_replicate hm), Nat.add_zero]

structure TInv (defs : List IdxDef) (t : Table) : Prop where
  count_eq : ∀ i k o, (t.idx i k).count o = if o ∈ t.objs then ((t.refs o).getD []).count (i, k) else 0
  refs_none : ∀ o, t.refs o = none ↔ o ∉ t.objs
  objsNodup : t.objs.Nodup
  uniq : ∀ i k, isUnique defs i = true → (t.idx i k).length ≤ 1

theorem tinv_empty (defs : List IdxDef) : TInv defs Table.empty :=
  ⟨fun _ _ _ => rfl, fun _ => ⟨fun _ => List.not_mem_nil, fun _ => rfl⟩, List.nodup_nil, fun _ _ _ => Nat.zero_le 1⟩

theorem refs_count_ite {t : Table} (hr : ∀ o, t.refs o = none ↔ o ∉ t.objs) (i : Nat) (k : Key) (o : ObjId) :
    (if o ∈ t.objs then ((t.refs o).getD []).count (i, k) else 0) = ((t.refs o).getD []).count (i, k) := by
  split
  · rfl
  · rename_i hm; rw [(hr o).mpr hm]; rfl

theorem TInv.filed {defs : List IdxDef} {t : Table} (h : TInv defs t) : Filed t :=
  fun i k o => (h.count_eq i k o).trans (refs_count_ite h.refs_none i k o)

theorem TInv.of_filed {defs : List IdxDef} {t : Table} (hf : Filed t) (hr : ∀ o, t.refs o = none ↔ o ∉ t.objs)
    (hn : t.objs.Nodup) (hu : ∀ i k, isUnique defs i = true → (t.idx i k).length ≤ 1) : TInv defs t :=
  ⟨fun i k o => (hf i k o).trans (refs_count_ite hr i k o).symm, hr, hn, hu⟩

/-- the state in the middle of `add_object`, `update_object` and `remove_object`: the table is consistent, except that
the stored object `o` is in no index list and has no entry in `_object_ids` -/
structure Unfiled (defs : List IdxDef) (t : Table) (o : ObjId) : Prop where
  filed : Filed t
  objsNodup : t.objs.Nodup
  mem : o ∈ t.objs
  refs_self : t.refs o = none
  refs_none : ∀ o', o' ≠ o → (t.refs o' = none ↔ o' ∉ t.objs)
  uniq : ∀ i k, isUnique defs i = true → (t.idx i k).length ≤ 1

theorem TInv.unfiled_rmIndices {defs : List IdxDef} {t : Table} (h : TInv defs t) {o : ObjId} (hm : o ∈ t.objs) :
    Unfiled defs (rmIndices t o) o := by
  have hf := h.filed.rmIndices o
  rw [rmIndices_eq] at hf ⊢
  refine ⟨hf, h.objsNodup, hm, if_pos rfl, fun o' e => ?_, fun i k hi => ?_⟩
  · show (if o' = o then none else t.refs o') = none ↔ o' ∉ t.objs
    rw [if_neg e]; exact h.refs_none o'
  · exact Nat.le_trans (iter_erase_sublist o _ _).length_le (h.uniq i k hi)

theorem Unfiled.file {defs : List IdxDef} {t : Table} {o : ObjId} (h : Unfiled defs t o) {refs : List (Nat × Key)}
    (hu : ∀ i k, isUnique defs i = true → ((appendAll t o refs).idx i k).length ≤ 1) :
    TInv defs ((appendAll t o refs).setRefs o (some refs)) := by
  refine .of_filed (h.filed.file h.refs_self refs) (fun o' => ?_)
    (by rw [setRefs_objs, appendAll_objs]; exact h.objsNodup) hu
  show (if o' = o then some refs else (appendAll t o refs).refs o') = none ↔ o' ∉ (appendAll t o refs).objs
  rw [appendAll_refs, appendAll_objs]
  by_cases e : o' = o
  · rw [if_pos e, e]; exact ⟨nofun, fun hn => absurd h.mem hn⟩
  · rw [if_neg e]; exact h.refs_none o' e

theorem Unfiled.erase {defs : List IdxDef} {t : Table} {o : ObjId} (h : Unfiled defs t o) :
    TInv defs { t with objs := t.objs.erase o } := by
  refine .of_filed h.filed (fun o' => ?_) (h.objsNodup.erase o) h.uniq
  show t.refs o' = none ↔ o' ∉ t.objs.erase o
  rw [h.objsNodup.mem_erase_iff]
  by_cases e : o' = o
  · rw [e]; exact ⟨fun _ hm => hm.1 rfl, fun _ => h.refs_self⟩
  · rw [h.refs_none o' e, and_iff_right e]

/-- why `add_object` raises: a key in a unique index is taken (`KeyError`), or its key function returned a list (`ValueError`) -/
def AddRejected (defs : List IdxDef) (t : Table) (rs : List KeyRes) (e : Err) : Prop :=
  (e = .keyError ∧ ∃ i k, isUnique defs i = true ∧ k ∈ keysOf defs i rs ∧ t.idx i k ≠ []) ∨
  (e = .valueError ∧ ∃ i d, defs[i]? = some d ∧ d.kind = .unique ∧ ∃ ks, keyResAt rs i = .many ks)

theorem mkIndices_cases {defs : List IdxDef} {t : Table} {o : ObjId} (h : Unfiled defs t o) (rs : List KeyRes) :
    (mkIndices defs t o rs = ((appendAll t o (allKeys defs rs)).setRefs o (some (allKeys defs rs)), none) ∧
      TInv defs ((appendAll t o (allKeys defs rs)).setRefs o (some (allKeys defs rs)))) ∨
    ∃ e, mkIndices defs t o rs = (t, some e) ∧ AddRejected defs t rs e := by
  unfold mkIndices
  have spec := mkLoop_spec defs o rs defs.length 0 t
  generalize mkLoop defs o rs defs.length 0 t = r at spec
  obtain ⟨t1, refs, _ | e⟩ := r
  · cases spec.refs (Nat.zero_add _) rfl
    obtain rfl : t1 = appendAll t o (allKeys defs rs) := spec.table
    refine .inl ⟨?_, h.file (spec.uniq h.uniq)⟩
    show (Table.setRefs _ o (some (((appendAll t o (allKeys defs rs)).refs o).getD [] ++ _)), none) = _
    rw [appendAll_refs, h.refs_self]; rfl
  · obtain rfl : t1 = appendAll t o refs := spec.table
    refine .inr ⟨e, ?_, ?_⟩
    · show (rmAll (appendAll t o refs) o refs, some e) = _
      rw [rmAll_appendAll (h.filed.not_mem h.refs_self)]
    · obtain ⟨j, d, _, hd, hu, ⟨he, k, hk, hne⟩ | ⟨he, hks⟩⟩ := spec.err e rfl
      · exact .inl ⟨he, j, k, (isUnique_of_get hd).mpr hu, keysOf_of_get hd rs ▸ hk, hne⟩
      · exact .inr ⟨he, j, d, hd, hu, hks⟩

theorem add_cases {defs : List IdxDef} {t : Table} (h : TInv defs t) {o : ObjId} (hno : o ∉ t.objs) (rs : List KeyRes) :
    (∃ t', add defs t o rs = (t', none) ∧ TInv defs t' ∧ t'.objs = t.objs ++ [o] ∧
      ∀ o', t'.refs o' = if o' = o then some (allKeys defs rs) else t.refs o') ∨
    ∃ e, add defs t o rs = (t, some e) ∧ AddRejected defs t rs e := by
  have hro : t.refs o = none := (h.refs_none o).mpr hno
  rw [add, if_neg hno, addNew]
  have hrn : ∀ o', o' ≠ o → (t.refs o' = none ↔ o' ∉ t.objs ++ [o]) := fun o' e => by
    rw [h.refs_none o', List.mem_append, List.mem_singleton, or_iff_left e]
  have hU : Unfiled defs { t with objs := t.objs ++ [o] } o :=
    ⟨h.filed, (List.perm_append_singleton o t.objs).nodup_iff.mpr (List.nodup_cons.mpr ⟨hno, h.objsNodup⟩),
      List.mem_concat_self, hro, hrn, h.uniq⟩
  rcases mkIndices_cases hU rs with ⟨he, ht⟩ | ⟨e, he, hr⟩ <;> rw [he]
  · exact .inl ⟨_, rfl, ht, appendAll_objs .., fun o' => by rw [Table.setRefs, appendAll_refs]⟩
  · refine .inr ⟨e, ?_, hr⟩
    show (({ t with objs := (t.objs ++ [o]).erase o } : Table), some e) = _
    rw [List.erase_append_right _ hno, List.erase_cons_head, List.append_nil]

theorem remove_spec {defs : List IdxDef} {t : Table} (h : TInv defs t) (o : ObjId) :
    (remove t o).2 = none ∧ TInv defs (remove t o).1 ∧ (remove t o).1.objs = t.objs.erase o ∧
    (∀ o', o' ≠ o → (remove t o).1.refs o' = t.refs o') ∧ (o ∉ t.objs → (remove t o).1 = t) := by
  unfold remove
  split
  · rename_i hr
    have hn := (h.refs_none o).mp hr
    exact ⟨rfl, h, (List.erase_of_not_mem hn).symm, fun _ _ => rfl, fun _ => rfl⟩
  · rename_i old hr
    have hm : o ∈ t.objs := Decidable.byContradiction fun hn => by rw [(h.refs_none o).mpr hn] at hr; cases hr
    have hU := h.unfiled_rmIndices hm
    rw [rmIndices_eq] at hU ⊢
    rw [if_pos hm]
    exact ⟨rfl, hU.erase, rfl, fun o' e => if_neg e, fun hn => absurd hm hn⟩

theorem update_not_mem {defs : List IdxDef} {t : Table} {o : ObjId} (rs : List KeyRes) (hn : o ∉ t.objs) :
    update defs t o rs = (t, some .valueError) :=
  if_pos hn

theorem update_cases {defs : List IdxDef} {t : Table} (h : TInv defs t) (o : ObjId) (rs : List KeyRes) :
    (∃ t', update defs t o rs = (t', none) ∧ o ∈ t.objs ∧ TInv defs t' ∧ t'.objs = t.objs ∧
      ∀ o', t'.refs o' = if o' = o then some (allKeys defs rs) else t.refs o') ∨
    (∃ t' e, update defs t o rs = (t', some e) ∧ TInv defs t' ∧ t'.objs = t.objs ∧
      (∀ o', t'.refs o' = t.refs o') ∧ ∀ i k, (t'.idx i k).Perm (t.idx i k)) := by
  by_cases hm : o ∈ t.objs
  case neg => exact .inr ⟨t, _, update_not_mem rs hm, h, rfl, fun _ => rfl, fun _ _ => .refl _⟩
  unfold update
  rw [if_neg (not_not_intro hm)]
  cases hr : t.refs o with
  | none => exact absurd hm ((h.refs_none o).mp hr)
  | some old =>
    dsimp only
    have hU := h.unfiled_rmIndices hm
    rcases mkIndices_cases hU rs with ⟨he, ht⟩ | ⟨e, he, _⟩ <;> rw [he]
    · exact .inl ⟨_, rfl, hm, ht, by rw [refile_eq], fun o' => by rw [refile_eq]⟩
    · have hf' := hU.filed.file hU.refs_self old
      have hrefs : ∀ o', ((appendAll (rmIndices t o) o old).setRefs o (some old)).refs o' = t.refs o' := fun o' => by
        rw [refile_eq]
        show (if o' = o then some old else t.refs o') = _
        split
        · rename_i e; rw [e, hr]
        · rfl
      have hperm := h.filed.perm hf' hrefs
      refine .inr ⟨_, e, rfl, hU.file fun i k hi => ?_, by rw [refile_eq], hrefs, hperm⟩
      exact Nat.le_trans (Nat.le_of_eq (hperm i k).length_eq) (h.uniq i k hi)

/-- the upper end of the range needs no mention: beyond the last index there are no keys -/
theorem allKeysFrom_count (defs : List IdxDef) (rs : List KeyRes) (i : Nat) (k : Key) (n i0 : Nat)
    (hn : i0 + n = defs.length) :
    (allKeysFrom defs rs n i0).count (i, k) = if i0 ≤ i then (keysOf defs i rs).count k else 0 := by
  induction n generalizing i0 with
  | zero =>
    split
    · rename_i h; rw [keysOf_out defs i rs (hn ▸ h)]; rfl
    · rfl
  | succ n ih =>
    rw [allKeysFrom, List.count_append, count_map_pair, ih (i0 + 1) ((Nat.succ_add i0 n).trans hn)]
    by_cases h : i = i0
    · subst h
      rw [if_pos rfl, if_neg (Nat.not_succ_le_self i), if_pos (Nat.le_refl i)]; rfl
    · rw [if_neg h, Nat.zero_add]
      by_cases h2 : i0 ≤ i
      · rw [if_pos h2, if_pos (Nat.succ_le_of_lt (Nat.lt_of_le_of_ne h2 (Ne.symm h)))]
      · rw [if_neg h2, if_neg fun h3 => h2 (Nat.le_of_succ_le h3)]

theorem allKeys_count (defs : List IdxDef) (rs : List KeyRes) (i : Nat) (k : Key) :
    (allKeys defs rs).count (i, k) = (keysOf defs i rs).count k :=
  (allKeysFrom_count defs rs i k defs.length 0 (Nat.zero_add _)).trans (if_pos (Nat.zero_le i))

structure Consistent (defs : List IdxDef) (w : World) : Prop where
  tinv : TInv defs w.tab
  /-- the `_object_ids` entry of a stored object is the key list of its last (re-)indexing -/
  refs_snap : ∀ o, o ∈ w.tab.objs → w.tab.refs o = some (allKeys defs (w.snap o))
  /-- no attribute write since the last (re-)indexing ⇒ that key list is the current one -/
  fresh : ∀ o, o ∈ w.tab.objs → w.pending o = false → ∀ i, keyResAt (w.snap o) i = keyResAt (w.cur o) i

theorem consistent_empty (defs : List IdxDef) (cur snap : ObjId → List KeyRes) (pending : ObjId → Bool) :
    Consistent defs ⟨Table.empty, cur, snap, pending⟩ :=
  ⟨tinv_empty defs, fun _ => nofun, fun _ => nofun⟩

theorem Consistent.of_sub {defs : List IdxDef} {w : World} (h : Consistent defs w) {t : Table} (ht : TInv defs t)
    (hsub : ∀ o, o ∈ t.objs → o ∈ w.tab.objs) (hrefs : ∀ o, o ∈ t.objs → t.refs o = w.tab.refs o) :
    Consistent defs { w with tab := t } :=
  ⟨ht, fun o ho => (hrefs o ho).trans (h.refs_snap o (hsub o ho)), fun o ho => h.fresh o (hsub o ho)⟩

theorem Consistent.reindexed {defs : List IdxDef} {w : World} (h : Consistent defs w) {t : Table} {o : ObjId}
    (ht : TInv defs t) (hsub : ∀ o', o' ∈ t.objs → o' ≠ o → o' ∈ w.tab.objs)
    (hrefs : ∀ o', t.refs o' = if o' = o then some (allKeys defs (w.cur o)) else w.tab.refs o') :
    Consistent defs ({ w with tab := t }.synced o) := by
  refine ⟨ht, fun o' ho' => ?_, fun o' ho' hp => ?_⟩
  · show t.refs o' = some (allKeys defs (if o' = o then w.cur o else w.snap o'))
    rw [hrefs]
    by_cases e : o' = o
    · rw [if_pos e, if_pos e]
    · rw [if_neg e, if_neg e]; exact h.refs_snap o' (hsub o' ho' e)
  · show ∀ i, keyResAt (if o' = o then w.cur o else w.snap o') i = keyResAt (w.cur o') i
    by_cases e : o' = o
    · rw [if_pos e, e]; exact fun _ => rfl
    · rw [if_neg e]
      exact h.fresh o' (hsub o' ho' e) ((if_neg e).symm.trans hp)

theorem stepAdd_rejected {defs : List IdxDef} {w w' : World} {o : ObjId} {e : Err} (hc : Consistent defs w)
    (h : stepAdd defs w o = (w', some e)) : w' = w ∧ o ∉ w.tab.objs ∧ AddRejected defs w.tab (w.cur o) e := by
  unfold stepAdd at h
  split at h
  · cases h
  · rename_i hno
    rcases add_cases hc.tinv hno (w.cur o) with ⟨_, e', _⟩ | ⟨_, e', hr⟩ <;> rw [e'] at h <;> cases h
    exact ⟨rfl, hno, hr⟩

theorem stepAdd_consistent {defs : List IdxDef} {w : World} (h : Consistent defs w) (o : ObjId) :
    Consistent defs (stepAdd defs w o).1 := by
  unfold stepAdd
  split
  · exact h
  · rename_i hno
    rcases add_cases h.tinv hno (w.cur o) with ⟨t, e, ht, hobjs, hrefs⟩ | ⟨e', e, _⟩ <;> rw [e]
    · refine h.reindexed ht (fun o' ho' e => ?_) hrefs
      rw [hobjs, List.mem_append, List.mem_singleton] at ho'
      exact ho'.resolve_right e
    · exact h

theorem stepRemove_consistent {defs : List IdxDef} {w : World} (h : Consistent defs w) (o : ObjId) :
    Consistent defs (stepRemove w o).1 := by
  obtain ⟨_, ht, hobjs, hrefs, _⟩ := remove_spec h.tinv o
  refine h.of_sub ht (fun o' ho' => ?_) fun o' ho' => hrefs o' ?_
  · rw [hobjs] at ho'; exact List.mem_of_mem_erase ho'
  · rw [hobjs] at ho'; exact (h.tinv.objsNodup.mem_erase_iff.mp ho').1

theorem stepUpdate_consistent {defs : List IdxDef} {w : World} (h : Consistent defs w) (o : ObjId) :
    Consistent defs (stepUpdate defs w o).1 := by
  unfold stepUpdate
  rcases update_cases h.tinv o (w.cur o) with ⟨t, e, _, ht, hobjs, hrefs⟩ | ⟨t, e', e, ht, hobjs, hrefs, _⟩ <;> rw [e]
  · exact h.reindexed ht (fun o' ho' _ => hobjs ▸ ho') hrefs
  · exact h.of_sub ht (fun o' ho' => hobjs ▸ ho') fun o' _ => hrefs o'

theorem stepMany_consistent {defs : List IdxDef} (f : World → ObjId → World × Option Err)
    (hf : ∀ w o, Consistent defs w → Consistent defs (f w o).1) (os : List ObjId) (w : World)
    (h : Consistent defs w) : Consistent defs (stepMany f w os).1 := by
  induction os generalizing w with
  | nil => exact h
  | cons o os ih =>
    unfold stepMany
    have := hf w o h
    generalize f w o = r at this
    obtain ⟨w', _ | e⟩ := r
    · exact ih w' this
    · exact this

theorem step_consistent {defs : List IdxDef} {w : World} (h : Consistent defs w) (op : Op) :
    Consistent defs (step defs w op).1 := by
  cases op with
  | setAttrs o rs =>
    refine ⟨h.tinv, h.refs_snap, fun o' ho' hp => ?_⟩
    change (if o' = o then true else w.pending o') = false at hp
    show ∀ i, _ = keyResAt (if o' = o then rs else w.cur o') i
    by_cases e : o' = o
    · rw [if_pos e] at hp; cases hp
    · rw [if_neg e] at hp ⊢; exact h.fresh o' ho' hp
  | add o => exact stepAdd_consistent h o
  | remove o => exact stepRemove_consistent h o
  | update o => exact stepUpdate_consistent h o
  | clear => exact consistent_empty defs _ _ _
  | addMany os => exact stepMany_consistent _ (fun _ o hw => stepAdd_consistent hw o) os w h
  | removeMany os => exact stepMany_consistent _ (fun _ o hw => stepRemove_consistent hw o) os w h
  | updateMany os => exact stepMany_consistent _ (fun _ o hw => stepUpdate_consistent hw o) os w h

theorem foldl_step_consistent (defs : List IdxDef) (ops : List Op) {w : World} (h : Consistent defs w) :
    Consistent defs (ops.foldl (fun w op => (step defs w op).1) w) := by
  induction ops generalizing w with
  | nil => exact h
  | cons op ops ih => exact ih (step_consistent h op)

theorem Consistent.count_scan {defs : List IdxDef} {w : World} (h : Consistent defs w) (i : Nat) (k : Key) (o : ObjId) :
    (w.tab.idx i k).count o = if o ∈ w.tab.objs then (keysOf defs i (w.snap o)).count k else 0 := by
  rw [h.tinv.count_eq]
  split
  · rename_i hm
    rw [h.refs_snap o hm, Option.getD_some, allKeys_count]
  · rfl

theorem count_scan_list (defs : List IdxDef) (attrs : ObjId → List KeyRes) (i : Nat) (k : Key) (o : ObjId)
    (objs : List ObjId) (hnd : objs.Nodup) :
    (scan defs objs attrs i k).count o = if o ∈ objs then (keysOf defs i (attrs o)).count k else 0 := by
  induction objs with
  | nil => rfl
  | cons a objs ih =>
    obtain ⟨ha, hnd⟩ := List.nodup_cons.mp hnd
    rw [scan, List.flatMap_cons, List.count_append, ← scan, ih hnd]
    exact count_replicate_add_ite ha (fun o => (keysOf defs i (attrs o)).count k) o

theorem Consistent.perm_scan {defs : List IdxDef} {w : World} (h : Consistent defs w) (i : Nat) (k : Key) :
    (w.tab.idx i k).Perm (scan defs w.tab.objs w.snap i k) :=
  List.perm_iff_count.mpr fun o => by
    rw [h.count_scan, count_scan_list defs w.snap i k o w.tab.objs h.tinv.objsNodup]

theorem keyResAt_setAt (rs : List KeyRes) (n : Nat) (v : KeyRes) (i : Nat) :
    keyResAt (setAt rs n v) i = if i = n then v else keyResAt rs i := by
  fun_induction setAt rs n v generalizing i with
  | case1 v => cases i <;> rfl
  | case2 n v ih =>
    cases i with
    | zero => rfl
    | succ i => exact (ih i).trans (ite_congr (propext Nat.succ_inj.symm) (fun _ => rfl) fun _ => rfl)
  | case3 r rs v => cases i <;> rfl
  | case4 r rs n v ih =>
    cases i with
    | zero => rfl
    | succ i => exact (ih i).trans (ite_congr (propext Nat.succ_inj.symm) (fun _ => rfl) fun _ => rfl)

theorem allKeys_append (defs : List IdxDef) (d : IdxDef) (rs rs' : List KeyRes)
    (h : ∀ i, i < defs.length → keyResAt rs' i = keyResAt rs i) :
    allKeys (defs ++ [d]) rs' =
      allKeys defs rs ++ (keysOfRes d (keyResAt rs' defs.length)).map fun k => (defs.length, k) := by
  suffices ∀ n i, i + n = defs.length → allKeysFrom (defs ++ [d]) rs' (n + 1) i =
      allKeysFrom defs rs n i ++ (keysOfRes d (keyResAt rs' defs.length)).map fun k => (defs.length, k) by
    rw [allKeys, allKeys, List.length_append]
    exact this defs.length 0 (Nat.zero_add _)
  intro n
  induction n with
  | zero =>
    intro i hi
    rw [Nat.add_zero] at hi
    rw [hi]
    show (keysOf (defs ++ [d]) defs.length rs').map _ ++ [] = [] ++ _
    rw [keysOf_of_get List.getElem?_concat_length, List.append_nil]
    rfl
  | succ n ih =>
    intro i hi
    have hlt : i < defs.length := hi ▸ Nat.lt_add_of_pos_right (Nat.succ_pos n)
    rw [allKeysFrom, ih (i + 1) ((Nat.succ_add i n).trans hi), allKeysFrom, List.append_assoc, keysOf, keysOf,
      List.getElem?_append_left hlt, h i hlt]

/-- what the loop of `add_index` over the objects `os` does to table `t`, stated for its result `r` -/
structure AddIdxLoopSpec (d : IdxDef) (n : Nat) (cur : ObjId → List KeyRes) (os : List ObjId) (t : Table)
    (r : Table × Option Err) : Prop where
  objs : r.1.objs = t.objs
  refs : r.1.refs = t.refs
  other : ∀ i k, i ≠ n → r.1.idx i k = t.idx i k
  count : os.Nodup → r.2 = none → ∀ i k o, (r.1.idx i k).count o = (t.idx i k).count o +
    if o ∈ os then ((keysOfRes d (keyResAt (cur o) n)).map fun k => (n, k)).count (i, k) else 0
  uniq : d.kind = .unique → (∀ k, (t.idx n k).length ≤ 1) → ∀ k, (r.1.idx n k).length ≤ 1

theorem addIdxLoop_spec (d : IdxDef) (n : Nat) (cur : ObjId → List KeyRes) (os : List ObjId) (t : Table) :
    AddIdxLoopSpec d n cur os t (addIdxLoop d n cur os t) := by
  fun_induction addIdxLoop d n cur os t with
  | case1 => exact ⟨rfl, rfl, fun _ _ _ => rfl, fun _ _ _ _ _ => rfl, fun _ h => h⟩
  | case2 => exact ⟨rfl, rfl, fun _ _ _ => rfl, fun _ => nofun, fun _ h => h⟩
  | case3 o os t t' ks hk ih =>
    obtain ⟨hks, ht', hu⟩ := mkKeys_ok hk
    refine ⟨ih.objs.trans (ht' ▸ appendAll_objs ..), ih.refs.trans (ht' ▸ appendAll_refs ..),
      fun i k hi => (ih.other i k hi).trans ?_, fun hnd h i k o' => ?_, fun hd h => ih.uniq hd fun k => hu hd k (h k)⟩
    · rw [mkKeys_idx hk, if_neg hi, List.replicate_zero, List.append_nil]
    · obtain ⟨ho, hnd⟩ := List.nodup_cons.mp hnd
      rw [ih.count hnd h, ht', appendAll_idx, List.count_append, hks, Nat.add_assoc]
      exact congrArg _ (count_replicate_add_ite ho
        (fun o => ((keysOfRes d (keyResAt (cur o) n)).map fun k => (n, k)).count (i, k)) o')

theorem insertByPos_perm (order : List ObjId) (a : ObjId) (l : List ObjId) : (insertByPos order a l).Perm (a :: l) := by
  induction l with
  | nil => exact List.Perm.refl _
  | cons b l ih =>
    unfold insertByPos
    split
    · exact List.Perm.refl _
    · exact ((List.Perm.cons b ih).trans (List.Perm.swap a b l))

theorem iterOrder_perm (objs order : List ObjId) : (iterOrder objs order).Perm objs := by
  induction objs with
  | nil => exact List.Perm.refl _
  | cons a l ih => exact (insertByPos_perm order a _).trans (List.Perm.cons a ih)

theorem Consistent.idx_out {defs : List IdxDef} {w : World} (h : Consistent defs w) {i : Nat} (hi : defs.length ≤ i)
    (k : Key) : w.tab.idx i k = [] :=
  List.eq_nil_iff_forall_not_mem.mpr fun o hm => by
    have := h.count_scan i k o
    rw [keysOf_out _ _ _ hi, List.count_nil, ite_self] at this
    exact List.count_eq_zero.mp this hm

theorem addIndex_cases {defs : List IdxDef} {w : World} (h : Consistent defs w) (d : IdxDef) (order : List ObjId) :
    (∃ w', addIndex defs w d order = (w', none) ∧ Consistent (defs ++ [d]) w') ∨
    ∃ e, addIndex defs w d order = (w, some e) := by
  unfold addIndex
  dsimp only
  have hmem : ∀ o, o ∈ iterOrder w.tab.objs order ↔ o ∈ w.tab.objs := fun o => (iterOrder_perm _ order).mem_iff
  have hnd := (iterOrder_perm w.tab.objs order).nodup_iff.mpr h.tinv.objsNodup
  generalize iterOrder w.tab.objs order = os at hmem hnd ⊢
  have hout := h.idx_out (Nat.le_refl defs.length)
  obtain ⟨so, sr, sother, scnt, sun⟩ := addIdxLoop_spec d defs.length w.cur os w.tab
  generalize addIdxLoop d defs.length w.cur os w.tab = r at so sr sother scnt sun
  obtain ⟨t, _ | e⟩ := r
  · refine .inl ⟨_, rfl, .of_filed (fun i k o => ?_) (fun o => ?_) (so ▸ h.tinv.objsNodup) fun i k hu => ?_,
      fun o ho => ?_, fun o ho hp i => ?_⟩
    · dsimp only
      rw [scnt hnd rfl, sr, h.tinv.filed]
      split
      · rw [Option.getD_some, List.count_append]
      · rfl
    · dsimp only
      rw [so, sr]
      by_cases hm : o ∈ w.tab.objs
      · rw [if_pos ((hmem o).mpr hm)]; exact ⟨nofun, fun hn => absurd hm hn⟩
      · rw [if_neg (mt (hmem o).mp hm)]; exact h.tinv.refs_none o
    · rcases Nat.lt_trichotomy i defs.length with hi | hi | hi
      · rw [isUnique, List.getElem?_append_left hi] at hu
        rw [sother i k (Nat.ne_of_lt hi)]; exact h.tinv.uniq i k hu
      · rw [hi] at hu ⊢
        exact sun ((isUnique_of_get List.getElem?_concat_length).mp hu) (fun k => by rw [hout k]; exact Nat.zero_le 1) k
      · rw [isUnique, List.getElem?_eq_none (by rw [List.length_append]; exact hi)] at hu; cases hu
    · have ho' : o ∈ w.tab.objs := so ▸ ho
      dsimp only
      rw [if_pos ((hmem o).mpr ho'), sr, h.refs_snap o ho', Option.getD_some,
        allKeys_append defs d (w.snap o) _ fun i hi => by rw [keyResAt_setAt, if_neg (Nat.ne_of_lt hi)],
        keyResAt_setAt, if_pos rfl]
    · dsimp only
      rw [keyResAt_setAt]
      split
      · rename_i hi; rw [hi]
      · exact h.fresh o (so ▸ ho) hp i
  · refine .inr ⟨e, ?_⟩
    have : ({ t with idx := fun i k => if i = defs.length then [] else t.idx i k } : Table) = w.tab :=
      Table.ext' so (fun i k => by
        show (if i = defs.length then [] else t.idx i k) = _
        split
        · rename_i hi; rw [hi, hout k]
        · rename_i hi; exact sother i k hi) sr
    show (({ w with tab := { t with idx := fun i k => if i = defs.length then [] else t.idx i k } } : World), some e) = _
    rw [this]

theorem xstep_consistent {x : XWorld} (h : Consistent x.defs x.w) (op : XOp) :
    Consistent (xstep x op).1.defs (xstep x op).1.w := by
  cases op with
  | op o => exact step_consistent h o
  | addIndex d order =>
    simp only [xstep]
    rcases addIndex_cases h d order with ⟨w', e, hw'⟩ | ⟨e', e⟩ <;> rw [e]
    · exact hw'
    · exact h

theorem foldl_xstep_consistent (ops : List XOp) (x : XWorld) (h : Consistent x.defs x.w) :
    Consistent (ops.foldl (fun x op => (xstep x op).1) x).defs (ops.foldl (fun x op => (xstep x op).1) x).w := by
  induction ops generalizing x with
  | nil => exact h
  | cons op ops ih => exact ih _ (xstep_consistent h op)

end Sdc.Multikey
