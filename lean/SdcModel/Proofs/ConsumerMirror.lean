import SdcModel.Proofs.Consumer
/-!
# C01: a consumer that mirrors `p` and processes reports that describe `p → p'` mirrors `p'`

Key by key, every table moves from its old content `P k` to its new content `P' k` and stays there (`Between`,
`Advances`).  `Mid` is the invariant while the parts of description modification reports are processed, `MidR` the
one over whole reports; what `reportsDescribe` demands (`TxFacts`) then leaves no key behind.
-/
namespace Sdc.Consumer
open Sdc.Mdib

/-! ### convergence of a keyed table from the content `P` to the content `P'` -/
section Converge
variable {α : Type} (key sv : α → Nat)

variable (P P' : Nat → Option α)

/-- every entry is still the old one or already the new one -/
def Between (l : List α) : Prop := ∀ k, lookupBy key l k = P k ∨ lookupBy key l k = P' k

/-- an incoming entry is the new content of its key and newer than the old content -/
def ValidNew (x : α) : Prop := P' (key x) = some x ∧ ∀ old, P (key x) = some old → sv old < sv x

/-- from `l` to `l'` every entry stays as it is or becomes the new one -/
def Advances (l l' : List α) : Prop := ∀ k, lookupBy key l' k = lookupBy key l k ∨ lookupBy key l' k = P' k

variable {key sv P P'}

theorem Advances.refl (l : List α) : Advances key P' l l := fun _ => Or.inl rfl

theorem Advances.trans {l m n : List α} (h1 : Advances key P' l m) (h2 : Advances key P' m n) :
    Advances key P' l n := by
  intro k
  rcases h2 k with h | h
  · rw [h]; exact h1 k
  · exact Or.inr h

theorem Advances.between {l l' : List α} (h : Advances key P' l l') (hb : Between key P P' l) :
    Between key P P' l' := by
  intro k
  rcases h k with h | h
  · rw [h]; exact hb k
  · exact Or.inr h

theorem Advances.at {l l' : List α} (h : Advances key P' l l') {k : Nat} (ha : lookupBy key l k = P' k) :
    lookupBy key l' k = P' k :=
  (h k).elim (fun h => h.trans ha) id

theorem gatedPut_advances {am : Bool} {l : List α} {x : α} (hx : P' (key x) = some x) :
    Advances key P' l (gatedPut key sv am l x).1 := by
  intro k
  rcases gatedPut_cases key sv am l x with ⟨_, _, _, e⟩ | ⟨hn, _, e⟩ | ⟨_, e⟩ <;> rw [e]
  · rw [lookupBy_replaceBy]
    split
    · rename_i hk; subst hk
      split
      · exact Or.inr hx.symm
      · rename_i hs; rw [Option.not_isSome_iff_eq_none.mp hs]; exact Or.inl rfl
    · exact Or.inl rfl
  · rw [lookupBy_append, lookupBy_cons, lookupBy_nil]
    split
    · rename_i hk; subst hk; rw [hn]; exact Or.inr hx.symm
    · rw [Option.or_none]; exact Or.inl rfl
  · exact Or.inl rfl

theorem gatedPutAll_advances {am : Bool} {xs l : List α} (hx : ∀ x ∈ xs, P' (key x) = some x) :
    Advances key P' l (gatedPutAll key sv am l xs).1 :=
  gatedPutAll_induction key sv (motive := Advances key P' l) xs (Advances.refl l)
    fun _ x hm h => h.trans (gatedPut_advances (hx x hm))

theorem gatedPut_at_self {l : List α} {x : α} (hx : ValidNew key sv P P' x) (hb : Between key P P' l) :
    lookupBy key (gatedPut key sv true l x).1 (key x) = P' (key x) := by
  rw [lookupBy_gatedPut, if_pos rfl, hx.1]
  rcases hb (key x) with h | h
  · cases ho : lookupBy key l (key x) with
    | none => rfl
    | some old => simp only [hx.2 old (h ▸ ho), if_true]
  · rw [h, hx.1]; simp only [ite_self]

theorem gatedPutAll_at_new {xs l : List α} (hx : ∀ x ∈ xs, ValidNew key sv P P' x) (hb : Between key P P' l) :
    ∀ x ∈ xs, lookupBy key (gatedPutAll key sv true l xs).1 (key x) = P' (key x) := by
  induction xs generalizing l with
  | nil => intro x hx; cases hx
  | cons y ys ih =>
    intro x hxm
    rw [gatedPutAll_cons]
    have hys : ∀ z ∈ ys, ValidNew key sv P P' z := fun z hz => hx z (List.mem_cons_of_mem _ hz)
    have hy := hx y (List.mem_cons_self ..)
    rcases List.mem_cons.mp hxm with rfl | hxm
    · exact (gatedPutAll_advances fun z hz => (hys z hz).1).at (gatedPut_at_self hy hb)
    · exact ih hys ((gatedPut_advances hy.1).between hb) x hxm

theorem Between.settled {l : List α} (hb : Between key P P' l) (h : ∀ k, P k ≠ P' k → lookupBy key l k = P' k)
    (k : Nat) : lookupBy key l k = P' k := by
  rcases hb k with h1 | h1
  · exact Classical.byCases (fun e : P k = P' k => h1.trans e) (h k)
  · exact h1

end Converge

/-- the three tables as lookup functions -/
def Core.pd (p : Core) : Nat → Option Descr := fun k => lookupBy (·.handle) p.tabs.descrs k
def Core.ps (p : Core) : Nat → Option SState := fun k => lookupBy (·.dh) p.tabs.states k
def Core.pc (p : Core) : Nat → Option CState := fun k => lookupBy (·.h) p.tabs.cstates k

section Tx
variable (p p' : Core)

/-- what `reportsDescribe` says about the parts `ps` (Prop form) -/
structure PartFacts (ps : List DescrPart) : Prop where
  wfp : p.tabs.Wf
  wfp' : p'.tabs.Wf
  created : ∀ q ∈ ps, q.mod = .create → p.pd q.descr.handle = none ∧ p'.pd q.descr.handle = some q.descr
  updated : ∀ q ∈ ps, q.mod = .update → ∃ old, p.pd q.descr.handle = some old ∧ old.parent = q.descr.parent ∧
    old.mds = q.descr.mds ∧ p'.pd q.descr.handle = some q.descr
  deleted : ∀ q ∈ ps, q.mod = .delete → (∃ old, p.pd q.descr.handle = some old) ∧ p'.pd q.descr.handle = none
  sValid : ∀ q ∈ ps, q.mod ≠ .delete → ∀ x ∈ q.states, ValidNew (·.dh) (·.sv) p.ps p'.ps x
  cValid : ∀ q ∈ ps, q.mod ≠ .delete → ∀ x ∈ q.cstates, ValidNew (·.h) (·.sv) p.pc p'.pc x
  delS : ∀ q ∈ ps, q.mod = .delete → p'.ps q.descr.handle = none
  delC : ∀ q ∈ ps, q.mod = .delete → ∀ c ∈ p'.tabs.cstates, c.dh ≠ q.descr.handle
  stable : ∀ k c c', p.pc k = some c → p'.pc k = some c' → c'.dh = c.dh
  ctxLists : ∀ q ∈ ps, q.mod = .update → q.descr.kind = Kind.context →
    ∀ c ∈ p'.tabs.cstates, c.dh = q.descr.handle → c.h ∈ keepOf q

/-- part `b` makes the context state `c` disappear: it deletes the descriptor of `c`, or updates it (a context
    descriptor) without listing `c` -/
def Drops (b : DescrPart) (c : CState) : Prop :=
  c.dh = b.descr.handle ∧ (b.mod = .delete ∨ (b.mod = .update ∧ b.descr.kind = Kind.context ∧ c.h ∉ keepOf b))

/-- invariant while the parts are processed; `done` = the parts processed so far: their descriptors have the new
    content and all others the old one, and what a processed part removes is gone -/
structure Mid (done : List DescrPart) (t : Tables) : Prop where
  wf : t.Wf
  dDone : ∀ b ∈ done, lookupBy (·.handle) t.descrs b.descr.handle = p'.pd b.descr.handle
  dKeep : ∀ k, (∀ b ∈ done, b.descr.handle ≠ k) → lookupBy (·.handle) t.descrs k = p.pd k
  s : Between (·.dh) p.ps p'.ps t.states
  c : Between (·.h) p.pc p'.pc t.cstates
  sDel : ∀ b ∈ done, b.mod = .delete → lookupBy (·.dh) t.states b.descr.handle = p'.ps b.descr.handle
  cDrop : ∀ b ∈ done, ∀ k c, p.pc k = some c → Drops b c → lookupBy (·.h) t.cstates k = p'.pc k

variable {p p'}

theorem between_mem {α : Type} {key : α → Nat} {l pl pl' : List α} (hn : (l.map key).Nodup)
    (hb : Between key (fun k => lookupBy key pl k) (fun k => lookupBy key pl' k) l) {x : α} (hx : x ∈ l) :
    x ∈ pl ∨ x ∈ pl' := by
  have h := lookupBy_of_mem_nodup key hn hx
  rcases hb (key x) with h1 | h1
  · rw [h] at h1; exact Or.inl (lookupBy_some_mem key h1.symm).1
  · rw [h] at h1; exact Or.inr (lookupBy_some_mem key h1.symm).1

theorem Mid.advance {done : List DescrPart} {t t' : Tables} (M : Mid p p' done t) (w : t'.Wf)
    (hd : t'.descrs = t.descrs) (hs : Advances (·.dh) p'.ps t.states t'.states)
    (hc : Advances (·.h) p'.pc t.cstates t'.cstates) : Mid p p' done t' :=
  ⟨w, hd ▸ M.dDone, hd ▸ M.dKeep, hs.between M.s, hc.between M.c, fun b hb hm => hs.at (M.sDel b hb hm),
    fun b hb k c hk hdr => hc.at (M.cDrop b hb k c hk hdr)⟩

theorem drops_update_iff {q : DescrPart} (hm : q.mod = .update) (c : CState) :
    Drops q c ↔ q.descr.kind = Kind.context ∧ c.dh = q.descr.handle ∧ c.h ∉ keepOf q := by
  unfold Drops; rw [hm]
  exact ⟨fun ⟨h1, h2⟩ => h2.elim (fun h => nomatch h) fun h => ⟨h.2.1, h1, h.2.2⟩, fun ⟨h1, h2, h3⟩ => ⟨h2, Or.inr ⟨rfl, h1, h3⟩⟩⟩

theorem drops_delete_iff {q : DescrPart} (hm : q.mod = .delete) (c : CState) : Drops q c ↔ c.dh = q.descr.handle := by
  unfold Drops; rw [hm]
  exact ⟨And.left, fun h => ⟨h, Or.inl rfl⟩⟩

theorem not_drops_new {ps : List DescrPart} {q : DescrPart} (F : PartFacts p p' ps) (hq : q ∈ ps) {c : CState}
    (hc : c ∈ p'.tabs.cstates) : ¬ Drops q c := by
  rintro ⟨hdh, hm | ⟨hm, hk, hnot⟩⟩
  · exact F.delC q hq hm c hc hdh
  · exact hnot (F.ctxLists q hq hm hk c hc hdh)

theorem dropped_gone {ps : List DescrPart} {q : DescrPart} (F : PartFacts p p' ps) (hq : q ∈ ps) {k : Nat}
    {c : CState} (hk : p.pc k = some c) (hd : Drops q c) : p'.pc k = none := by
  cases h' : p'.pc k with
  | none => rfl
  | some c' =>
    -- `Drops` looks at the two handles only, and a context state keeps both
    have e1 : c'.dh = c.dh := F.stable k c c' hk h'
    have e2 : c'.h = c.h := (lookupBy_some_mem _ h').2.trans (lookupBy_some_mem _ hk).2.symm
    refine absurd ?_ (not_drops_new F hq (lookupBy_some_mem _ h').1)
    unfold Drops; rw [e1, e2]; exact hd

theorem drop_advances {ps : List DescrPart} {q : DescrPart} (F : PartFacts p p' ps) (hq : q ∈ ps)
    {cs cs' : List CState} (hb : Between (·.h) p.pc p'.pc cs) {f : CState → Bool} (hf : ∀ c, f c = false ↔ Drops q c)
    (h : ∀ k, lookupBy (·.h) cs' k = (lookupBy (·.h) cs k).filter f) :
    Advances (·.h) p'.pc cs cs' ∧ ∀ k c, p.pc k = some c → Drops q c → lookupBy (·.h) cs' k = p'.pc k := by
  constructor
  · intro k
    rw [h k]
    cases hl : lookupBy (·.h) cs k with
    | none => exact Or.inl rfl
    | some c =>
      rw [Option.filter_some]
      split
      · exact Or.inl rfl
      · rename_i hfc
        have hd : Drops q c := (hf c).mp (Bool.not_eq_true _ ▸ hfc)
        refine Or.inr (Eq.symm ?_)
        rcases hb k with e | e
        · exact dropped_gone F hq (e.symm.trans hl) hd
        · exact absurd hd (not_drops_new F hq (lookupBy_some_mem _ (e.symm.trans hl)).1)
  · intro k c hk hd
    rw [h k, dropped_gone F hq hk hd]
    rcases hb k with e | e
    · rw [e, hk, Option.filter_some, (hf c).mpr hd, if_neg Bool.false_ne_true]
    · rw [e, dropped_gone F hq hk hd]; rfl

/-- flatness of one DELETE part, as needed at the moment it is processed -/
def FlatAt (p : Core) (ps done : List DescrPart) (q : DescrPart) : Prop :=
  (∀ d ∈ p.tabs.descrs, d.parent = some q.descr.handle →
    ∃ b ∈ done, b.mod = .delete ∧ b.descr.handle = d.handle) ∧
  (∀ b ∈ ps, b.mod ≠ .delete → b.descr.parent ≠ some q.descr.handle)

/-- every descriptor of `p'` is a descriptor of `p` or the descriptor of a CREATE / UPDATE part -/
def DescrComplete (p p' : Core) (ps : List DescrPart) : Prop :=
  ∀ d ∈ p'.tabs.descrs, p.pd d.handle = some d ∨ ∃ b ∈ ps, b.mod ≠ .delete ∧ b.descr.handle = d.handle

/-- flatness of the DELETE parts along the list (Prop form of `flatDeletes`) -/
def FlatAll (p : Core) (ps : List DescrPart) : List DescrPart → List DescrPart → Prop
  | _, [] => True
  | done, q :: rest => (q.mod = .delete → FlatAt p ps done q) ∧ FlatAll p ps (done ++ [q]) rest

theorem flatAll_at {ps : List DescrPart} : ∀ (a done : List DescrPart) {q : DescrPart} {b : List DescrPart},
    FlatAll p ps done (a ++ q :: b) → q.mod = .delete → FlatAt p ps (done ++ a) q
  | [], done, q, b, h, hm => by simpa using h.1 hm
  | x :: a, done, q, b, h, hm => by simpa using flatAll_at a (done ++ [x]) h.2 hm

theorem no_child_left {ps done : List DescrPart} {t : Tables} {q : DescrPart} (F : PartFacts p p' ps)
    (hdone : ∀ b ∈ done, b ∈ ps) (hcomp : DescrComplete p p' ps) (hflat : FlatAt p ps done q) (M : Mid p p' done t) :
    ∀ d ∈ t.descrs, d.parent ≠ some q.descr.handle := by
  intro d hd hpar
  have hlk := lookupBy_of_mem_nodup (·.handle) M.wf.d hd
  -- a child in `p` was deleted by a part already processed
  have hold : d ∈ p.tabs.descrs → False := by
    intro hdp
    obtain ⟨b, hb, hbm, hbh⟩ := hflat.1 d hdp hpar
    have h2 := M.dDone b hb
    rw [(F.deleted b (hdone b hb) hbm).2, hbh, hlk] at h2
    cases h2
  refine Classical.byCases (p := ∃ b ∈ done, b.descr.handle = d.handle) (fun ⟨b, hb, hbh⟩ => ?_) fun hno => ?_
  · -- a child in `p'` that was not in `p` is the descriptor of a CREATE / UPDATE part: not below a deleted one
    have h1 := M.dDone b hb
    rw [hbh, hlk] at h1
    rcases hcomp d (lookupBy_some_mem _ h1.symm).1 with h2 | ⟨b, hb, hbm, hbh⟩
    · exact hold (lookupBy_some_mem _ h2).1
    · have hbd : b.descr = d := by
        have : p'.pd b.descr.handle = some b.descr := by
          cases hmod : b.mod with
          | create => exact (F.created b hb hmod).2
          | update => obtain ⟨_, _, _, _, this⟩ := F.updated b hb hmod; exact this
          | delete => exact absurd hmod hbm
        rw [hbh, ← h1] at this; exact (Option.some.inj this).symm
      exact hflat.2 b hb hbm (hbd ▸ hpar)
  · have h1 := M.dKeep d.handle fun b hb e => hno ⟨b, hb, e⟩
    rw [hlk] at h1
    exact hold (lookupBy_some_mem _ h1.symm).1

theorem Mid.snoc {done : List DescrPart} {t t' : Tables} {q : DescrPart} (M : Mid p p' done t) (w : t'.Wf)
    (hd : ∀ k, lookupBy (·.handle) t'.descrs k = if k = q.descr.handle then p'.pd k else lookupBy (·.handle) t.descrs k)
    (hs : Advances (·.dh) p'.ps t.states t'.states) (hc : Advances (·.h) p'.pc t.cstates t'.cstates)
    (hsd : q.mod = .delete → lookupBy (·.dh) t'.states q.descr.handle = p'.ps q.descr.handle)
    (hcd : ∀ k c, p.pc k = some c → Drops q c → lookupBy (·.h) t'.cstates k = p'.pc k) :
    Mid p p' (done ++ [q]) t' := by
  refine ⟨w, fun b hb => ?_, fun k hk => ?_, hs.between M.s, hc.between M.c, fun b hb hm => ?_,
    fun b hb k c hk hdr => ?_⟩
  · rw [hd]
    split
    · rfl
    · rcases List.mem_append.mp hb with hb | hb
      · exact M.dDone b hb
      · rename_i hne; exact absurd (congrArg (·.descr.handle) (List.mem_singleton.mp hb)) hne
  · rw [hd, if_neg (Ne.symm (hk q (List.mem_append_right _ (List.mem_singleton_self q))))]
    exact M.dKeep k fun b hb => hk b (List.mem_append_left _ hb)
  · rcases List.mem_append.mp hb with hb | hb
    · exact hs.at (M.sDel b hb hm)
    · rw [List.mem_singleton.mp hb] at hm ⊢; exact hsd hm
  · rcases List.mem_append.mp hb with hb | hb
    · exact hc.at (M.cDrop b hb k c hk hdr)
    · rw [List.mem_singleton.mp hb] at hdr; exact hcd k c hk hdr

theorem mid_part {ps done tail : List DescrPart} {t : Tables} {q : DescrPart} (F : PartFacts p p' ps)
    (hcomp : DescrComplete p p' ps) (hflat : FlatAll p ps [] ps) (hnd : (ps.map (·.descr.handle)).Nodup)
    (hsplit : ps = done ++ q :: tail) (M : Mid p p' done t) :
    Mid p p' (done ++ [q]) (applyPart t q) ∧ Advances (·.dh) p'.ps t.states (applyPart t q).states ∧
    Advances (·.h) p'.pc t.cstates (applyPart t q).cstates := by
  have hq : q ∈ ps := hsplit ▸ List.mem_append_right _ (List.mem_cons_self ..)
  -- no earlier part has touched the descriptor of `q`
  have hcur : lookupBy (·.handle) t.descrs q.descr.handle = p.pd q.descr.handle := by
    rw [hsplit, List.map_append, List.map_cons, List.nodup_append] at hnd
    exact M.dKeep _ fun b hb => hnd.2.2 _ (List.mem_map_of_mem hb) _ (List.mem_cons_self ..)
  have w := applyPart_wf q M.wf
  cases hm : q.mod with
  | create =>
    have hnd : q.mod ≠ .delete := fun h => nomatch hm.symm.trans h
    have hs := gatedPutAll_advances (sv := (·.sv)) (am := true) (l := t.states) fun x hx => (F.sValid q hq hnd x hx).1
    have hc := gatedPutAll_advances (sv := (·.sv)) (am := true) (l := t.cstates) fun x hx => (F.cValid q hq hnd x hx).1
    rw [applyPart_create hm] at w ⊢
    refine ⟨M.snoc w (fun k => ?_) hs hc (fun h => nomatch hm.symm.trans h) ?_, hs, hc⟩
    · rw [lookupBy_createDescr]
      split
      · rename_i hk; rw [hk, (F.created q hq hm).2]
      · rfl
    · rintro k c _ ⟨_, h | ⟨h, _⟩⟩ <;> exact nomatch hm.symm.trans h
  | update =>
    obtain ⟨old, ho, hpar, hmds, hnewd⟩ := F.updated q hq hm
    have hnd : q.mod ≠ .delete := fun h => nomatch hm.symm.trans h
    have hs := gatedPutAll_advances (sv := (·.sv)) (am := false) (l := t.states) fun x hx => (F.sValid q hq hnd x hx).1
    have hc := gatedPutAll_advances (sv := (·.sv)) (am := false) (l := keptCStates t.cstates q)
      fun x hx => (F.cValid q hq hnd x hx).1
    -- the context states that are filtered out are those `q` drops
    have hdrop := drop_advances F hq M.c (cs' := keptCStates t.cstates q)
      (f := fun s => !(q.descr.kind == Kind.context && s.dh == q.descr.handle && !(keepOf q).contains s.h))
      (fun c => by simp [drops_update_iff hm, and_assoc]) (lookupBy_keptCStates q M.wf.c)
    rw [applyPart_update hm] at w ⊢
    refine ⟨M.snoc w (fun k => ?_) hs (hdrop.1.trans hc) (fun h => nomatch hm.symm.trans h)
      fun k c hk hd => hc.at (hdrop.2 k c hk hd), hs, hdrop.1.trans hc⟩
    rw [lookupBy_updateDescr]
    split
    · -- the entry is still the old one, whose parent and `source_mds` are those of the part
      rename_i hk
      rw [hk, hcur, ho, hnewd, Option.map_some, hpar, hmds]
    · rfl
  | delete =>
    obtain ⟨⟨old, ho⟩, hnone⟩ := F.deleted q hq hm
    have hsub : subtree t.descrs q.descr.handle = [q.descr.handle] :=
      subtree_flat (no_child_left F (fun b hb => hsplit ▸ List.mem_append_left _ hb) hcomp
        (by simpa using flatAll_at done [] (b := tail) (by rw [← hsplit]; exact hflat) hm) M)
    have hdrop := drop_advances F hq M.c (cs' := removeBy (·.dh) t.cstates [q.descr.handle].contains)
      (f := fun c => ![q.descr.handle].contains c.dh) (fun c => by simp [drops_delete_iff hm])
      (lookupBy_filter_nodup _ _ M.wf.c)
    have hs : Advances (·.dh) p'.ps t.states (removeBy (·.dh) t.states [q.descr.handle].contains) := by
      intro k
      rw [lookupBy_removeBy_single]
      split
      · rename_i hk; rw [hk, F.delS q hq hm]; exact Or.inr rfl
      · exact Or.inl rfl
    rw [applyPart_delete hm, rmDescriptor_present (hcur.trans ho), hsub] at w ⊢
    refine ⟨M.snoc w (fun k => ?_) hs hdrop.1 (fun _ => ?_) hdrop.2, hs, hdrop.1⟩
    · rw [lookupBy_removeBy_single]
      split
      · rename_i hk; rw [hk, hnone]
      · rfl
    · rw [lookupBy_removeBy_single, if_pos rfl, F.delS q hq hm]

theorem mid_parts {ps : List DescrPart} (F : PartFacts p p' ps) (hcomp : DescrComplete p p' ps)
    (hflat : FlatAll p ps [] ps) (hnd : (ps.map (·.descr.handle)).Nodup) :
    ∀ (qs done tail : List DescrPart) (t : Tables), ps = done ++ (qs ++ tail) → Mid p p' done t →
      Mid p p' (done ++ qs) (applyParts t qs) ∧ Advances (·.dh) p'.ps t.states (applyParts t qs).states ∧
      Advances (·.h) p'.pc t.cstates (applyParts t qs).cstates
  | [], done, _, t, _, M => by rw [List.append_nil]; exact ⟨M, Advances.refl _, Advances.refl _⟩
  | q :: qs, done, tail, t, hs, M => by
    obtain ⟨M1, s1, c1⟩ := mid_part F hcomp hflat hnd hs M
    obtain ⟨M2, s2, c2⟩ := mid_parts F hcomp hflat hnd qs (done ++ [q]) tail (applyPart t q)
      (by rw [hs, List.append_assoc]; rfl) M1
    rw [List.append_cons]
    exact ⟨M2, s1.trans s2, c1.trans c2⟩

end Tx

section Reports
variable {p p' : Core}

theorem descrParts_nil : descrParts [] = [] := rfl

theorem descrParts_append (a b : List Report) : descrParts (a ++ b) = descrParts a ++ descrParts b := by
  unfold descrParts; rw [List.filter_append, List.flatMap_append]

theorem descrParts_cons (r : Report) (rs : List Report) :
    descrParts (r :: rs) = (if r.kind = .description then r.parts else []) ++ descrParts rs := by
  unfold descrParts
  rw [List.filter_cons]
  split
  · rename_i h; rw [if_pos (by simpa using h), List.flatMap_cons]
  · rename_i h; rw [if_neg (by simpa using h)]; rfl

/-- what `reportsDescribe` says, in the form the simulation proof uses -/
structure TxFacts (p p' : Core) (rs : List Report) : Prop where
  parts : PartFacts p p' (descrParts rs)
  comp : DescrComplete p p' (descrParts rs)
  flat : FlatAll p (descrParts rs) [] (descrParts rs)
  distinct : ((descrParts rs).map (·.descr.handle)).Nodup
  nonempty : rs ≠ []
  vg : ∀ r ∈ rs, r.vg = p'.vg
  ver : p.vg.ver ≤ p'.vg.ver
  verlt : p.vg.ver < p'.vg.ver
  seq : p.vg.seq = p'.vg.seq
  inst : p.vg.inst = p'.vg.inst
  sValid : ∀ r ∈ rs, r.kind ≠ .description → r.kind ≠ .context → ∀ x ∈ r.states, ValidNew (·.dh) (·.sv) p.ps p'.ps x
  cValid : ∀ r ∈ rs, r.kind = .context → ∀ x ∈ r.cstates, ValidNew (·.h) (·.sv) p.pc p'.pc x
  dRemoved : ∀ d ∈ p.tabs.descrs, p'.pd d.handle ≠ none ∨
    ∃ b ∈ descrParts rs, b.mod = .delete ∧ b.descr.handle = d.handle
  sComplete : ∀ s ∈ p'.tabs.states, p.ps s.dh = some s ∨
    ∃ r ∈ rs, r.kind ≠ .description ∧ r.kind ≠ .context ∧ s ∈ r.states
  sRemoved : ∀ s ∈ p.tabs.states, p'.ps s.dh ≠ none ∨ ∃ b ∈ descrParts rs, b.mod = .delete ∧ b.descr.handle = s.dh
  cComplete : ∀ s ∈ p'.tabs.cstates, p.pc s.h = some s ∨ ∃ r ∈ rs, r.kind = .context ∧ s ∈ r.cstates
  cRemoved : ∀ s ∈ p.tabs.cstates, p'.pc s.h ≠ none ∨ (∃ b ∈ descrParts rs, b.mod = .delete ∧ b.descr.handle = s.dh) ∨
    ∃ b ∈ descrParts rs, b.mod = .update ∧ b.descr.kind = Kind.context ∧ b.descr.handle = s.dh ∧ s.h ∉ keepOf b

/-- invariant while the reports are processed; `rs1` = the reports processed so far: their parts are done, their
    states are in the tables -/
structure MidR (p p' : Core) (rs1 : List Report) (c : Core) : Prop where
  tabs : Mid p p' (descrParts rs1) c.tabs
  ver : c.vg.ver ≤ p'.vg.ver
  vg : rs1 ≠ [] → c.vg = p'.vg
  sNew : ∀ r ∈ rs1, r.kind ≠ .description → r.kind ≠ .context →
    ∀ x ∈ r.states, lookupBy (·.dh) c.tabs.states x.dh = p'.ps x.dh
  cNew : ∀ r ∈ rs1, r.kind = .context → ∀ x ∈ r.cstates, lookupBy (·.h) c.tabs.cstates x.h = p'.pc x.h

theorem midR_report {rs rs1 rs2 : List Report} {r : Report} {c : Core} (T : TxFacts p p' rs)
    (hsplit : rs = rs1 ++ r :: rs2) (M : MidR p p' rs1 c) : MidR p p' (rs1 ++ [r]) (applyReport c r).1 := by
  have hr : r ∈ rs := hsplit ▸ List.mem_append_right _ (List.mem_cons_self ..)
  have hvg := T.vg r hr
  have hv : c.vg.ver ≤ r.vg.ver := hvg ▸ M.ver
  have hvg' : (applyReport c r).1.vg = p'.vg := by rw [applyReport_vg, if_pos hv, hvg]
  suffices h : Mid p p' (descrParts (rs1 ++ [r])) (applyReport c r).1.tabs ∧
      Advances (·.dh) p'.ps c.tabs.states (applyReport c r).1.tabs.states ∧
      Advances (·.h) p'.pc c.tabs.cstates (applyReport c r).1.tabs.cstates ∧
      (r.kind ≠ .description → r.kind ≠ .context →
        ∀ x ∈ r.states, lookupBy (·.dh) (applyReport c r).1.tabs.states x.dh = p'.ps x.dh) ∧
      (r.kind = .context → ∀ x ∈ r.cstates, lookupBy (·.h) (applyReport c r).1.tabs.cstates x.h = p'.pc x.h) by
    obtain ⟨hM, hs, hc, hsn, hcn⟩ := h
    refine ⟨hM, hvg' ▸ Nat.le_refl _, fun _ => hvg', fun r' hr' h1 h2 x hx => ?_, fun r' hr' h1 x hx => ?_⟩
    · rcases List.mem_append.mp hr' with h | h
      · exact hs.at (M.sNew r' h h1 h2 x hx)
      · rw [List.mem_singleton.mp h] at h1 h2 hx; exact hsn h1 h2 x hx
    · rcases List.mem_append.mp hr' with h | h
      · exact hc.at (M.cNew r' h h1 x hx)
      · rw [List.mem_singleton.mp h] at h1 hx; exact hcn h1 x hx
  rw [descrParts_append, descrParts_cons, descrParts_nil, List.append_nil]
  by_cases hd : r.kind = .description
  · rw [applyReport_description hv hd, if_pos hd]
    have hps : descrParts rs = descrParts rs1 ++ (r.parts ++ descrParts rs2) := by
      rw [hsplit, descrParts_append, descrParts_cons, if_pos hd]
    obtain ⟨hM, hs, hc⟩ := mid_parts T.parts T.comp T.flat T.distinct r.parts _ _ c.tabs hps M.tabs
    exact ⟨hM, hs, hc, fun h => absurd hd h, fun h => by rw [hd] at h; cases h⟩
  rw [if_neg hd, List.append_nil]
  by_cases hc : r.kind = .context
  · have hx := T.cValid r hr hc
    have ha := gatedPutAll_advances (sv := (·.sv)) (am := true) (l := c.tabs.cstates) fun x h => (hx x h).1
    rw [applyReport_context hv hc]
    exact ⟨M.tabs.advance ⟨M.tabs.wf.d, M.tabs.wf.s, gatedPutAll_nodup _ _ _ M.tabs.wf.c⟩ rfl (Advances.refl _) ha,
      Advances.refl _, ha, fun _ h => absurd hc h, fun _ => gatedPutAll_at_new hx M.tabs.c⟩
  · have hx := T.sValid r hr hd hc
    have ha := gatedPutAll_advances (sv := (·.sv)) (am := true) (l := c.tabs.states) fun x h => (hx x h).1
    rw [applyReport_states hv hd hc]
    exact ⟨M.tabs.advance ⟨M.tabs.wf.d, gatedPutAll_nodup _ _ _ M.tabs.wf.s, M.tabs.wf.c⟩ rfl ha (Advances.refl _),
      ha, Advances.refl _, fun _ _ => gatedPutAll_at_new hx M.tabs.s, fun h => absurd h hc⟩

theorem midR_all {rs : List Report} (T : TxFacts p p' rs) :
    ∀ (rs2 rs1 : List Report) (c : Core), rs = rs1 ++ rs2 → MidR p p' rs1 c → MidR p p' rs (applyAll c rs2).1
  | [], rs1, c, h, M => by rw [h, List.append_nil]; exact M
  | r :: rs2, rs1, c, h, M =>
    midR_all T rs2 (rs1 ++ [r]) (applyReport c r).1 (by rw [h, List.append_assoc]; rfl) (midR_report T h M)

/-- **simulation step**: a consumer that mirrors `p` and processes, in emission order, reports that describe
    `p → p'` mirrors `p'` -/
theorem mirror_of_facts {rs : List Report} (T : TxFacts p p' rs) {c : Core} (hw : c.tabs.Wf) (hM : Mirror c p) :
    Mirror (applyAll c rs).1 p' := by
  have M0 : MidR p p' [] c :=
    ⟨⟨hw, (fun _ hb => nomatch hb), fun k _ => hM.d k, fun k => Or.inl (hM.s k), fun k => Or.inl (hM.c k), (fun _ hb => nomatch hb), (fun _ hb => nomatch hb)⟩,
      hM.vg ▸ T.ver, fun h => absurd rfl h, (fun _ hr => nomatch hr), (fun _ hr => nomatch hr)⟩
  have M := midR_all T rs [] c rfl M0
  refine ⟨M.vg T.nonempty, fun k => ?_, M.tabs.s.settled fun k hne => ?_, M.tabs.c.settled fun k hne => ?_⟩
  · -- descriptors: the handles of the parts have the new content; the others did not change
    show _ = p'.pd k
    refine Classical.byCases (p := ∃ b ∈ descrParts rs, b.descr.handle = k) (fun ⟨b, hb, e⟩ => e ▸ M.tabs.dDone b hb)
      fun hno => ?_
    · have hnp : ∀ b ∈ descrParts rs, b.descr.handle ≠ k := fun b hb e => hno ⟨b, hb, e⟩
      rw [M.tabs.dKeep k hnp]
      cases hp' : p'.pd k with
      | some d =>
        obtain ⟨hd, hdk⟩ := lookupBy_some_mem _ hp'
        rcases T.comp d hd with h | ⟨b, hb, _, hbh⟩
        · rw [← hdk]; exact h
        · exact absurd (hbh.trans hdk) (hnp b hb)
      | none =>
        cases hp : p.pd k with
        | none => rfl
        | some d =>
          obtain ⟨hd, hdk⟩ := lookupBy_some_mem _ hp
          rcases T.dRemoved d hd with h | ⟨b, hb, _, hbh⟩
          · exact absurd (hdk ▸ hp') h
          · exact absurd (hbh.trans hdk) (hnp b hb)
  · -- single states: a new one came in a state report, a vanished one went with a DELETE part
    show _ = p'.ps k
    cases hp' : p'.ps k with
    | some s =>
      obtain ⟨hs, hsk⟩ := lookupBy_some_mem _ hp'
      rcases T.sComplete s hs with h | ⟨r, hr, hk1, hk2, hsr⟩
      · exact absurd ((hsk ▸ h).trans hp'.symm) hne
      · rw [← hp', ← hsk]; exact M.sNew r hr hk1 hk2 s hsr
    | none =>
      cases hp : p.ps k with
      | none => exact absurd (hp.trans hp'.symm) hne
      | some s =>
        obtain ⟨hs, hsk⟩ := lookupBy_some_mem _ hp
        rcases T.sRemoved s hs with h | ⟨q, hq, hqm, hqh⟩
        · exact absurd (hsk ▸ hp') h
        · rw [← hp', ← hsk, ← hqh]; exact M.tabs.sDel q hq hqm
  · -- context states: as before, or dropped by an UPDATE part of their descriptor
    show _ = p'.pc k
    cases hp' : p'.pc k with
    | some s =>
      obtain ⟨hs, hsk⟩ := lookupBy_some_mem _ hp'
      rcases T.cComplete s hs with h | ⟨r, hr, hk1, hsr⟩
      · exact absurd ((hsk ▸ h).trans hp'.symm) hne
      · rw [← hp', ← hsk]; exact M.cNew r hr hk1 s hsr
    | none =>
      cases hp : p.pc k with
      | none => exact absurd (hp.trans hp'.symm) hne
      | some s =>
        obtain ⟨hs, hsk⟩ := lookupBy_some_mem _ hp
        rw [← hp']
        rcases T.cRemoved s hs with h | ⟨q, hq, hqm, hqh⟩ | ⟨q, hq, hqm, hqk, hqh, hnot⟩
        · exact absurd (hsk ▸ hp') h
        · exact M.tabs.cDrop q hq k s hp ⟨hqh.symm, Or.inl hqm⟩
        · exact M.tabs.cDrop q hq k s hp ⟨hqh.symm, Or.inr ⟨hqm, hqk, hnot⟩⟩

end Reports

section Bridge
variable {p p' : Core} {rs : List Report}

theorem mem_flatMap_filter {β γ : Type} {l : List β} {f : β → Bool} {g : β → List γ} {x : γ} :
    x ∈ (l.filter f).flatMap g ↔ ∃ b ∈ l, f b = true ∧ x ∈ g b := by
  simp only [List.mem_flatMap, List.mem_filter, and_assoc]

theorem mem_stateReportStates {x : SState} :
    x ∈ stateReportStates rs ↔ ∃ r ∈ rs, r.kind ≠ .description ∧ r.kind ≠ .context ∧ x ∈ r.states := by
  unfold stateReportStates
  simp only [mem_flatMap_filter, Bool.and_eq_true, bne_iff_ne, ne_eq, and_assoc]

theorem mem_contextReportStates {x : CState} :
    x ∈ contextReportStates rs ↔ ∃ r ∈ rs, r.kind = .context ∧ x ∈ r.cstates := by
  unfold contextReportStates
  simp only [mem_flatMap_filter, beq_iff_eq]

theorem mem_partStates {ps : List DescrPart} {x : SState} :
    x ∈ partStates ps ↔ ∃ q ∈ ps, q.mod ≠ .delete ∧ x ∈ q.states := by
  unfold partStates
  simp only [mem_flatMap_filter, bne_iff_ne, ne_eq]

theorem mem_partCStates {ps : List DescrPart} {x : CState} :
    x ∈ partCStates ps ↔ ∃ q ∈ ps, q.mod ≠ .delete ∧ x ∈ q.cstates := by
  unfold partCStates
  simp only [mem_flatMap_filter, bne_iff_ne, ne_eq]

theorem mem_deletedHandles {ps : List DescrPart} {h : Handle} :
    h ∈ deletedHandles ps ↔ ∃ q ∈ ps, q.mod = .delete ∧ q.descr.handle = h := by
  unfold deletedHandles partHandles
  simp only [List.mem_map, List.mem_filter, beq_iff_eq, and_assoc]

theorem flatAll_of_flatDeletes {ps : List DescrPart} :
    ∀ (rest done : List DescrPart), (∀ b ∈ ps, b ∈ done ++ rest) → flatDeletes p done rest = true →
      FlatAll p ps done rest
  | [], _, _, _ => trivial
  | q :: rest, done, hall, h => by
    unfold flatDeletes at h
    simp only [Bool.and_eq_true, Bool.or_eq_true, bne_iff_ne, ne_eq, List.all_eq_true, List.any_eq_true,
      beq_iff_eq] at h
    refine ⟨?_, flatAll_of_flatDeletes rest (done ++ [q]) (by simpa using hall) h.2⟩
    intro hm
    rcases h.1 with h1 | ⟨h1, h2⟩
    · exact absurd hm h1
    · refine ⟨?_, ?_⟩
      · intro d hd hpar
        rcases h1 d hd with h3 | ⟨b, hb, hbm, hbh⟩
        · exact absurd hpar h3
        · exact ⟨b, hb, hbm, hbh⟩
      · intro b hb hbm
        have hb' := hall b hb
        have : b ∈ done ++ rest := by
          rcases List.mem_append.mp hb' with h3 | h3
          · exact List.mem_append_left _ h3
          · rcases List.mem_cons.mp h3 with rfl | h3
            · exact absurd hm hbm
            · exact List.mem_append_right _ h3
        rcases h2 b this with h3 | h3
        · exact absurd h3 hbm
        · exact h3

theorem txFacts_of_describe (h : ReportsDescribe p p' rs) : TxFacts p p' rs := by
  unfold ReportsDescribe reportsDescribe DescribeClauses.all describeClauses at h
  simp only [Bool.and_eq_true] at h
  obtain ⟨⟨⟨⟨⟨⟨⟨⟨⟨⟨⟨⟨⟨⟨⟨⟨⟨⟨⟨⟨⟨hne, hvg⟩, hids⟩, hwf⟩, hdist⟩, hcr⟩, hup⟩, hdel⟩, hdc⟩, hdr⟩, hflat⟩, hss⟩, hsn⟩, hsc⟩, hsr⟩, hgone⟩, hcs⟩, hcn⟩, hcc⟩, hcr'⟩, hstab⟩, hctx⟩ := h
  simp only [keysNodup_iff, and_assoc] at hwf
  obtain ⟨w1, w2, w3, w4, w5, w6⟩ := hwf
  rw [keysNodup_iff] at hdist
  simp only [List.all_eq_true, Bool.or_eq_true, Bool.and_eq_true, bne_iff_ne, ne_eq, beq_iff_eq,
    Option.isNone_iff_eq_none, Option.isSome_iff_ne_none, List.any_eq_true, List.contains_iff_mem,
    decide_eq_true_eq, List.mem_append, Bool.not_eq_true'] at hvg hids hcr hup hdel hdc hdr hss hsn hsc hsr hgone hcs hcn hcc hcr' hstab hctx
  -- an entry carried by a report or a part is the new content of its key and newer than the old one
  have hS : ∀ x, (x ∈ stateReportStates rs ∨ x ∈ partStates (descrParts rs)) → ValidNew (·.dh) (·.sv) p.ps p'.ps x := by
    refine fun x hx => ⟨hss x hx, fun old ho => ?_⟩
    have := hsn x hx
    rw [show lookupBy (·.dh) p.tabs.states x.dh = some old from ho] at this
    exact of_decide_eq_true this
  have hC : ∀ x, (x ∈ contextReportStates rs ∨ x ∈ partCStates (descrParts rs)) → ValidNew (·.h) (·.sv) p.pc p'.pc x := by
    refine fun x hx => ⟨hcs x hx, fun old ho => ?_⟩
    have := hcn x hx
    rw [show lookupBy (·.h) p.tabs.cstates x.h = some old from ho] at this
    exact of_decide_eq_true this
  have hdelmem : ∀ q ∈ descrParts rs, q.mod = .delete → q.descr.handle ∈ deletedHandles (descrParts rs) :=
    fun q hq hm => mem_deletedHandles.mpr ⟨q, hq, hm, rfl⟩
  refine ⟨⟨⟨w1, w2, w3⟩, ⟨w4, w5, w6⟩, ?_, ?_, ?_, ?_, ?_, ?_, ?_, ?_, ?_⟩, ?_, ?_, hdist, ?_, ?_, Nat.le_of_lt hids.1.1, hids.1.1, hids.1.2, hids.2, ?_, ?_, ?_, ?_, ?_, ?_, ?_⟩
  · exact fun q hq hm => (hcr q hq).resolve_left fun h => h hm
  · intro q hq hm
    have h1 := (hup q hq).resolve_left fun h => h hm
    cases ho : lookupBy (·.handle) p.tabs.descrs q.descr.handle with
    | none => rw [ho] at h1; exact absurd h1 Bool.false_ne_true
    | some old =>
      rw [ho] at h1
      simp only [Bool.and_eq_true, beq_iff_eq] at h1
      exact ⟨old, ho, h1.1.1, h1.1.2, h1.2⟩
  · intro q hq hm
    have h1 := (hdel q hq).resolve_left fun h => h hm
    exact ⟨Option.ne_none_iff_exists'.mp h1.1, h1.2⟩
  · exact fun q hq hm x hx => hS x (Or.inr (mem_partStates.mpr ⟨q, hq, hm, hx⟩))
  · exact fun q hq hm x hx => hC x (Or.inr (mem_partCStates.mpr ⟨q, hq, hm, hx⟩))
  · exact fun q hq hm => (hgone _ (hdelmem q hq hm)).1
  · exact fun q hq hm c hc => (hgone _ (hdelmem q hq hm)).2 c hc
  · intro k c c' hk hk'
    obtain ⟨hc', hkk⟩ := lookupBy_some_mem _ hk'
    have := hstab c' hc'
    rw [hkk, show lookupBy (·.h) p.tabs.cstates k = some c from hk] at this
    exact (eq_of_beq this).symm
  · intro q hq hm hk c hc hdh
    rcases hctx q hq with h1 | h1
    · rw [hm, hk] at h1; exact absurd h1 (by decide)
    · rcases h1 c hc with h2 | ⟨x, hx, hxh, hxd⟩
      · exact absurd hdh h2
      · exact List.mem_map.mpr ⟨x, List.mem_filter.mpr ⟨hx, beq_iff_eq.mpr hxd⟩, hxh⟩
  · exact hdc
  · exact flatAll_of_flatDeletes _ _ (by simp) hflat
  · intro e; rw [e] at hne; cases hne
  · exact hvg
  · exact fun r hr h1 h2 x hx => hS x (Or.inl (mem_stateReportStates.mpr ⟨r, hr, h1, h2, hx⟩))
  · exact fun r hr h1 x hx => hC x (Or.inl (mem_contextReportStates.mpr ⟨r, hr, h1, hx⟩))
  · exact fun d hd => (hdr d hd).imp_right mem_deletedHandles.mp
  · exact fun s hs => (hsc s hs).imp_right mem_stateReportStates.mp
  · exact fun s hs => (hsr s hs).imp_right mem_deletedHandles.mp
  · exact fun s hs => (hcc s hs).imp_right mem_contextReportStates.mp
  · intro s hs
    rcases hcr' s hs with (h1 | h1) | ⟨q, hq, ⟨⟨hqm, hqk⟩, hqh⟩, hany⟩
    · exact Or.inl h1
    · exact Or.inr (Or.inl (mem_deletedHandles.mp h1))
    · refine Or.inr (Or.inr ⟨q, hq, hqm, hqk, hqh, ?_⟩)
      intro hmem
      unfold keepOf at hmem
      rw [List.mem_map] at hmem
      obtain ⟨x, hx, hxh⟩ := hmem
      rw [List.mem_filter] at hx
      have : (q.cstates.any fun x_1 => x_1.h == s.h && x_1.dh == q.descr.handle) = true := by
        rw [List.any_eq_true]
        exact ⟨x, hx.1, by simp [hxh]; simpa using hx.2⟩
      rw [this] at hany; cases hany

end Bridge
section Notifs
variable {α : Type} (key sv : α → Nat)

/-- **the notification names exactly the changed entries**: a key is in the `*_by_handle` dict iff its table entry
    after the report differs from the entry before -/
theorem gatedPutAll_named_iff_changed (am : Bool) (l xs : List α) (k : Nat) :
    k ∈ (gatedPutAll key sv am l xs).2 ↔ lookupBy key (gatedPutAll key sv am l xs).1 k ≠ lookupBy key l k := by
  induction xs generalizing l with
  | nil => simp [gatedPutAll_nil]
  | cons x xs ih =>
    rw [gatedPutAll_cons]
    -- an accepted entry is newer than what was there, and nothing written later is older than it
    have hnewer : lookupBy key (gatedPut key sv am l x).1 (key x) = some x →
        (∀ old, lookupBy key l (key x) = some old → sv old < sv x) →
        lookupBy key (gatedPutAll key sv am (gatedPut key sv am l x).1 xs).1 (key x) ≠ lookupBy key l (key x) := by
      intro h1 hlt e
      obtain ⟨b, hb, hxb⟩ := gatedPutAll_lookup_mono key sv (am := am) xs h1
      exact absurd (hlt b (e ▸ hb)) (Nat.not_lt.mpr hxb)
    by_cases hk : k = key x
    · subst hk
      rcases gatedPut_cases key sv am l x with ⟨old, ho, hlt, e⟩ | ⟨hn, _, e⟩ | ⟨_, e⟩ <;> rw [e] at hnewer ⊢
      · simp only [if_true, List.mem_cons, true_or, true_iff]
        exact hnewer (by rw [lookupBy_replaceBy, if_pos rfl, ho]; rfl) fun o h => by rw [ho] at h; cases h; exact hlt
      · simp only [if_true, List.mem_cons, true_or, true_iff]
        exact hnewer (by rw [lookupBy_append, hn, lookupBy_cons, if_pos rfl]; rfl) fun o h => by rw [hn] at h; cases h
      · exact ih l
    · -- another key: the write of `x` neither names it nor touches its entry
      have e : lookupBy key (gatedPut key sv am l x).1 k = lookupBy key l k := by rw [lookupBy_gatedPut, if_neg hk]
      rw [← e, ← ih]
      split
      · exact List.mem_cons.trans (or_iff_right hk)
      · exact Iff.rfl

end Notifs
end Sdc.Consumer
