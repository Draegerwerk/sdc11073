import SdcModel.Reports
/-! `groupBy` (Python defaultdict grouping) and the shape of the reports built from a TransactionResult -/
namespace Sdc.Mdib

theorem groupInsert_eq {σ} (k : Handle) (x : σ) (g : List (Handle × List σ)) :
    (k ∉ g.map (·.1) ∧ groupInsert k x g = g ++ [(k, [x])]) ∨
    ∃ g1 xs g2, g = g1 ++ (k, xs) :: g2 ∧ groupInsert k x g = g1 ++ (k, xs ++ [x]) :: g2 := by
  induction g with
  | nil => exact .inl ⟨List.not_mem_nil, rfl⟩
  | cons p rest ih =>
    obtain ⟨k', xs⟩ := p
    by_cases e : k' = k
    · subst e; exact .inr ⟨[], xs, rest, rfl, if_pos (beq_self_eq_true _)⟩
    · have en : groupInsert k x ((k', xs) :: rest) = (k', xs) :: groupInsert k x rest := if_neg (mt beq_iff_eq.1 e)
      rw [en]
      rcases ih with ⟨hn, e1⟩ | ⟨g1, ys, g2, e1, e2⟩
      · exact .inl ⟨fun hm => (List.mem_cons.1 hm).elim (fun e' => e e'.symm) hn, by rw [e1]; rfl⟩
      · exact .inr ⟨(k', xs) :: g1, ys, g2, by rw [e1]; rfl, by rw [e2]; rfl⟩

/-- what grouping `l` by `key` gives: the members of `l`, each in the group of its key, one group per key -/
structure Grouped {σ} (key : σ → Handle) (l : List σ) (g : List (Handle × List σ)) : Prop where
  flat : (g.flatMap (·.2)).Perm l
  keysOK : ∀ p ∈ g, ∀ x ∈ p.2, key x = p.1
  nodup : (g.map (·.1)).Nodup

theorem Grouped.insert {σ} {key : σ → Handle} {l : List σ} {g : List (Handle × List σ)} (h : Grouped key l g) (x : σ) :
    Grouped key (l ++ [x]) (groupInsert (key x) x g) := by
  obtain ⟨hf, hk, hn⟩ := h
  rcases groupInsert_eq (key x) x g with ⟨hnew, e⟩ | ⟨g1, xs, g2, rfl, e⟩
  · rw [e]
    refine ⟨?_, ?_, ?_⟩
    · rw [List.flatMap_append]; exact hf.append_right _
    · intro p hp y hy
      rcases List.mem_append.1 hp with hp | hp
      · exact hk p hp y hy
      · rw [List.mem_singleton.1 hp] at hy ⊢; rw [List.mem_singleton.1 hy]
    · rw [List.map_append]
      exact List.nodup_append.2 ⟨hn, List.pairwise_singleton _ _, fun a ha b hb e' =>
        hnew ((show a = key x from e'.trans (List.mem_singleton.1 hb)) ▸ ha)⟩
  · rw [e]
    refine ⟨?_, ?_, ?_⟩
    · rw [List.flatMap_append, List.flatMap_cons] at hf ⊢
      -- `x` moves from the middle to the end
      refine .trans ?_ (hf.append_right [x])
      rw [List.append_assoc xs, List.append_assoc, List.append_assoc]
      exact .append_left _ (.append_left _ List.perm_append_comm)
    · intro p hp y hy
      rcases List.mem_append.1 hp with hp | hp
      · exact hk p (List.mem_append_left _ hp) y hy
      · rcases List.mem_cons.1 hp with rfl | hp
        · rcases List.mem_append.1 hy with hy | hy
          · exact hk _ (List.mem_append_right _ (List.mem_cons_self ..)) y hy
          · rw [List.mem_singleton.1 hy]
        · exact hk p (List.mem_append_right _ (List.mem_cons_of_mem _ hp)) y hy
    · rw [List.map_append, List.map_cons] at hn ⊢; exact hn

theorem groupBy_grouped {σ} (key : σ → Handle) (l : List σ) : Grouped key l (groupBy key l) := by
  have gen : ∀ (l pre : List σ) (acc : List (Handle × List σ)), Grouped key pre acc →
      Grouped key (pre ++ l) (l.foldl (fun acc x => groupInsert (key x) x acc) acc) := by
    intro l
    induction l with
    | nil => intro pre acc h; rw [List.append_nil]; exact h
    | cons x xs ih => intro pre acc h; rw [List.foldl_cons, List.append_cons]; exact ih _ _ (h.insert x)
  exact gen l [] [] ⟨.refl _, fun _ h => (nomatch h), List.nodup_nil⟩

theorem mem_stateReport {t : Tables} {vg : VersionGroup} {k : ReportKind} {l : List SState} {rep : Rep}
    (h : rep ∈ stateReport t vg k l) : rep = .states k vg (groupBy (fun s => (mdsOfState t s.dh).getD 0) l) := by
  unfold stateReport at h
  split at h
  · exact nomatch h
  · exact List.mem_singleton.1 h

theorem mem_mkReports {t : Tables} {vg : VersionGroup} {r : TxResult} {rep : Rep} (h : rep ∈ mkReports t vg r) :
    rep = .descr vg (r.descrUpdated.map (mkDPart r .update) ++ r.descrCreated.map (mkDPart r .create)
                ++ r.descrDeleted.map (mkDPart r .delete)) ∨
    (∃ k l, rep = .states k vg (groupBy (fun s => (mdsOfState t s.dh).getD 0) l)) ∨
    rep = .ctx vg (groupBy (fun c => (mdsOfState t c.dh).getD 0) r.ctx) := by
  simp only [mkReports, List.mem_append] at h
  rcases h with (((((h | h) | h) | h) | h) | h) | h
  · split at h
    · exact nomatch h
    · exact .inl (List.mem_singleton.1 h)
  · exact .inr (.inl ⟨_, _, mem_stateReport h⟩)
  · exact .inr (.inl ⟨_, _, mem_stateReport h⟩)
  · exact .inr (.inl ⟨_, _, mem_stateReport h⟩)
  · split at h
    · exact nomatch h
    · exact .inr (.inr (List.mem_singleton.1 h))
  · exact .inr (.inl ⟨_, _, mem_stateReport h⟩)
  · exact .inr (.inl ⟨_, _, mem_stateReport h⟩)

end Sdc.Mdib
