import SdcModel.Tls
/-! helper lemmas for C19: which decision stands behind the scheme of an address, the consumer once it has a TLS
connection, `mk_ssl_contexts_from_folder` -/
namespace Sdc.Tls

theorem Server.mem_all (s : Server) : s ∈ Server.all := by cases s <;> decide
theorem ConsMode.mem_all (m : ConsMode) : m ∈ ConsMode.all := by cases m <;> decide
theorem mem_bools (b : Bool) : b ∈ [false, true] := by cases b <;> decide

theorem urlScheme_provider {s : Site} (cfg : Cfg) (ssl : Option Bool) (hs : s.ofProvider = true) :
    urlScheme cfg ssl s = provScheme cfg := by
  cases s <;> first | rfl | cases hs

theorem urlScheme_consumer {s : Site} (cfg : Cfg) (ssl : Option Bool) (hs : s.ofProvider = false) :
    urlScheme cfg ssl s = if consServerTls cfg ssl then .https else .http := by
  cases s <;> first | rfl | cases hs

/-- on a TLS connection an event sink that is accepted speaks TLS: the only server that does not is refused -/
theorem consServerTls_of_accepted {cfg : Cfg} (h : eventSinkAccepted cfg (some true) = true) :
    consServerTls cfg (some true) = true := by
  unfold eventSinkAccepted eventSinkAcceptedFor at h
  unfold consServerTls
  cases hc : cfg.consServer
  · rfl
  · rw [hc] at h; cases h
  · rfl

/-- for every configuration and every site: TLS on the provider, or a TLS connection on the consumer with an accepted
    event sink, leaves no plaintext address of an own endpoint -/
theorem urlScheme_https (cfg : Cfg) (s : Site) :
    (s.ofProvider = true → cfg.provTls = true → urlScheme cfg (some true) s = .https) ∧
    (s.ofProvider = false → eventSinkAccepted cfg (some true) = true → urlScheme cfg (some true) s = .https) := by
  refine ⟨fun hs hp => ?_, fun hs hacc => ?_⟩
  · rw [urlScheme_provider cfg _ hs, provScheme, if_pos hp]
  · rw [urlScheme_consumer cfg _ hs, consServerTls_of_accepted hacc]
    rfl

theorem getClient_tls {s : CState} (h : s.ssl = some true) (n : Nat) :
    (getClient s n).1.ssl = some true ∧ ∀ b ∈ (getClient s n).2, b = true := by
  have hu : (s.ssl != some false) = true := by rw [h]; rfl
  unfold getClient
  dsimp only
  rw [hu]
  by_cases hp : (true, n) ∈ s.pool
  · rw [if_pos hp]; exact ⟨h, nofun⟩
  · rw [if_neg hp]; exact ⟨h, fun b hb => List.mem_singleton.1 hb⟩

/-- the fall-back is taken only while nothing is decided: with `True` every event keeps it and creates TLS clients only -/
theorem cstep_tls {s : CState} (h : s.ssl = some true) (e : CEv) :
    (cstep s e).1.ssl = some true ∧ ∀ b ∈ (cstep s e).2, b = true := by
  cases e with
  | getClient n => exact getClient_tls h n
  | stop => exact ⟨h, nofun⟩
  | connect res =>
    unfold cstep
    rw [h]
    exact getClient_tls h 0

theorem fromFolder_contexts {k c n p : Bool} {cl sv : Verify} (h : fromFolder k c n p = .contexts cl sv) :
    cl = verifyMode false n ∧ sv = verifyMode true n := by
  unfold fromFolder at h
  cases k
  · cases h
  · cases c
    · cases h
    · by_cases hn : (n && !p) = true
      · rw [if_pos hn] at h; cases h
      · rw [if_neg hn] at h; cases h; exact ⟨rfl, rfl⟩

end Sdc.Tls
