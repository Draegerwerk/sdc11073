import SdcModel.MdibDescr
import SdcModel.Proofs.MdibFind
/-!
# What the table primitives do to the lookups

`rmX` / `addX` of the three tables, their composition `putState` / `putCtx` (what a commit does with one item), and the
version `seenX` a handle shows: that of the live object, else the saved one of the removed object.
-/
namespace Sdc.Mdib

@[simp] theorem findS_ver (t : Tables) (v : Nat) (h : Handle) : findS { t with ver := v } h = findS t h := rfl
@[simp] theorem findC_ver (t : Tables) (v : Nat) (h : Handle) : findC { t with ver := v } h = findC t h := rfl
@[simp] theorem findD_ver (t : Tables) (v : Nat) (h : Handle) : findD { t with ver := v } h = findD t h := rfl

theorem findS_some {t : Tables} {h : Handle} {s : SState} (hf : findS t h = some s) : s.dh = h ∧ s ∈ t.states :=
  find_some_key (fun x : SState => x.dh) hf
theorem findC_some {t : Tables} {h : Handle} {c : CState} (hf : findC t h = some c) : c.h = h ∧ c ∈ t.ctx :=
  find_some_key (fun x : CState => x.h) hf
theorem findD_some {t : Tables} {h : Handle} {d : Descr} (hf : findD t h = some d) : d.handle = h ∧ d ∈ t.descrs :=
  find_some_key (fun x : Descr => x.handle) hf

theorem mem_unique {t : Tables} (hn : (t.descrs.map (·.handle)).Nodup) {d d' : Descr} (h1 : d ∈ t.descrs) (h2 : d' ∈ t.descrs)
    (e : d.handle = d'.handle) : d = d' := Keyed.eq_of_nodup_map hn h1 h2 e

def seenS (t : Tables) (h : Handle) : Option Nat :=
  match findS t h with | some s => some s.sv | none => savedGet t.sSaved h
def seenC (t : Tables) (h : Handle) : Option Nat :=
  match findC t h with | some c => some c.sv | none => savedGet t.cSaved h
def seenD (t : Tables) (h : Handle) : Option Nat :=
  match findD t h with | some d => some d.ver | none => savedGet t.dSaved h

@[simp] theorem seenS_ver (t : Tables) (v : Nat) (h : Handle) : seenS { t with ver := v } h = seenS t h := rfl
@[simp] theorem seenC_ver (t : Tables) (v : Nat) (h : Handle) : seenC { t with ver := v } h = seenC t h := rfl
@[simp] theorem seenD_ver (t : Tables) (v : Nat) (h : Handle) : seenD { t with ver := v } h = seenD t h := rfl

theorem findS_congr {t t' : Tables} (h : t'.states = t.states) (k : Handle) : findS t' k = findS t k := by rw [findS, findS, h]
theorem findC_congr {t t' : Tables} (h : t'.ctx = t.ctx) (k : Handle) : findC t' k = findC t k := by rw [findC, findC, h]
theorem findD_congr {t t' : Tables} (h : t'.descrs = t.descrs) (k : Handle) : findD t' k = findD t k := by rw [findD, findD, h]

theorem seenS_congr {t t' : Tables} (h1 : t'.states = t.states) (h2 : t'.sSaved = t.sSaved) (h : Handle) : seenS t' h = seenS t h := by
  rw [seenS, seenS, findS, findS, h1, h2]
theorem seenC_congr {t t' : Tables} (h1 : t'.ctx = t.ctx) (h2 : t'.cSaved = t.cSaved) (h : Handle) : seenC t' h = seenC t h := by
  rw [seenC, seenC, findC, findC, h1, h2]
theorem seenD_congr {t t' : Tables} (h1 : t'.descrs = t.descrs) (h2 : t'.dSaved = t.dSaved) (h : Handle) : seenD t' h = seenD t h := by
  rw [seenD, seenD, findD, findD, h1, h2]

theorem rmState_of_none {t : Tables} {h : Handle} (hf : findS t h = none) : rmState t h = t := by rw [rmState, hf]
theorem rmCtx_of_none {t : Tables} {h : Handle} (hf : findC t h = none) : rmCtx t h = t := by rw [rmCtx, hf]

theorem filter_of_find_none {α : Type} (key : α → Handle) {l : List α} {h : Handle}
    (hf : l.find? (fun x => key x == h) = none) : l.filter (fun x => key x != h) = l := by
  rw [List.filter_eq_self]
  intro a ha
  rw [bne_iff_ne]
  exact fun e => (find_none_iff key).1 hf (e ▸ List.mem_map_of_mem ha)

theorem rmState_states (t : Tables) (h : Handle) : (rmState t h).states = t.states.filter (fun x => x.dh != h) := by
  unfold rmState
  split
  · rename_i hf; exact (filter_of_find_none (fun x : SState => x.dh) hf).symm
  · rfl
theorem rmCtx_ctx (t : Tables) (h : Handle) : (rmCtx t h).ctx = t.ctx.filter (fun x => x.h != h) := by
  unfold rmCtx
  split
  · rename_i hf; exact (filter_of_find_none (fun x : CState => x.h) hf).symm
  · rfl
theorem rmDescr_descrs (t : Tables) (h : Handle) : (rmDescr t h).descrs = t.descrs.filter (fun x => x.handle != h) := by
  unfold rmDescr
  split
  · rename_i hf; exact (filter_of_find_none (fun x : Descr => x.handle) hf).symm
  · rfl

@[simp] theorem rmState_ver (t : Tables) (h : Handle) : (rmState t h).ver = t.ver := by unfold rmState; split <;> rfl
@[simp] theorem rmState_descrs (t : Tables) (h : Handle) : (rmState t h).descrs = t.descrs := by unfold rmState; split <;> rfl
@[simp] theorem rmState_ctx (t : Tables) (h : Handle) : (rmState t h).ctx = t.ctx := by unfold rmState; split <;> rfl
@[simp] theorem rmState_dSaved (t : Tables) (h : Handle) : (rmState t h).dSaved = t.dSaved := by unfold rmState; split <;> rfl
@[simp] theorem rmState_cSaved (t : Tables) (h : Handle) : (rmState t h).cSaved = t.cSaved := by unfold rmState; split <;> rfl
@[simp] theorem rmCtx_ver (t : Tables) (h : Handle) : (rmCtx t h).ver = t.ver := by unfold rmCtx; split <;> rfl
@[simp] theorem rmCtx_descrs (t : Tables) (h : Handle) : (rmCtx t h).descrs = t.descrs := by unfold rmCtx; split <;> rfl
@[simp] theorem rmCtx_states (t : Tables) (h : Handle) : (rmCtx t h).states = t.states := by unfold rmCtx; split <;> rfl
@[simp] theorem rmCtx_dSaved (t : Tables) (h : Handle) : (rmCtx t h).dSaved = t.dSaved := by unfold rmCtx; split <;> rfl
@[simp] theorem rmCtx_sSaved (t : Tables) (h : Handle) : (rmCtx t h).sSaved = t.sSaved := by unfold rmCtx; split <;> rfl
@[simp] theorem rmDescr_ver (t : Tables) (h : Handle) : (rmDescr t h).ver = t.ver := by unfold rmDescr; split <;> rfl
@[simp] theorem rmDescr_states (t : Tables) (h : Handle) : (rmDescr t h).states = t.states := by unfold rmDescr; split <;> rfl
@[simp] theorem rmDescr_ctx (t : Tables) (h : Handle) : (rmDescr t h).ctx = t.ctx := by unfold rmDescr; split <;> rfl
@[simp] theorem rmDescr_sSaved (t : Tables) (h : Handle) : (rmDescr t h).sSaved = t.sSaved := by unfold rmDescr; split <;> rfl
@[simp] theorem rmDescr_cSaved (t : Tables) (h : Handle) : (rmDescr t h).cSaved = t.cSaved := by unfold rmDescr; split <;> rfl

theorem findS_rmState_self (t : Tables) (h : Handle) : findS (rmState t h) h = none := by
  unfold findS; rw [rmState_states]; exact find_filter_self (fun x : SState => x.dh) _ _
theorem findS_rmState_ne (t : Tables) {h h' : Handle} (hne : h' ≠ h) : findS (rmState t h) h' = findS t h' := by
  unfold findS; rw [rmState_states]; exact find_filter_ne (fun x : SState => x.dh) _ hne
theorem findC_rmCtx_self (t : Tables) (h : Handle) : findC (rmCtx t h) h = none := by
  unfold findC; rw [rmCtx_ctx]; exact find_filter_self (fun x : CState => x.h) _ _
theorem findC_rmCtx_ne (t : Tables) {h h' : Handle} (hne : h' ≠ h) : findC (rmCtx t h) h' = findC t h' := by
  unfold findC; rw [rmCtx_ctx]; exact find_filter_ne (fun x : CState => x.h) _ hne
theorem findD_rmDescr_self (t : Tables) (h : Handle) : findD (rmDescr t h) h = none := by
  unfold findD; rw [rmDescr_descrs]; exact find_filter_self (fun x : Descr => x.handle) _ _
theorem findD_rmDescr_ne (t : Tables) {h h' : Handle} (hne : h' ≠ h) : findD (rmDescr t h) h' = findD t h' := by
  unfold findD; rw [rmDescr_descrs]; exact find_filter_ne (fun x : Descr => x.handle) _ hne

theorem sSaved_rmState_self (t : Tables) (h : Handle) : savedGet (rmState t h).sSaved h = seenS t h := by
  unfold rmState seenS
  cases findS t h with
  | none => rfl
  | some s => exact savedGet_savedSet_self _ _ _
theorem sSaved_rmState_ne (t : Tables) {h h' : Handle} (hne : h' ≠ h) : savedGet (rmState t h).sSaved h' = savedGet t.sSaved h' := by
  unfold rmState
  cases findS t h with
  | none => rfl
  | some s => exact savedGet_savedSet_ne _ _ hne
theorem cSaved_rmCtx_self (t : Tables) (h : Handle) : savedGet (rmCtx t h).cSaved h = seenC t h := by
  unfold rmCtx seenC
  cases findC t h with
  | none => rfl
  | some s => exact savedGet_savedSet_self _ _ _
theorem cSaved_rmCtx_ne (t : Tables) {h h' : Handle} (hne : h' ≠ h) : savedGet (rmCtx t h).cSaved h' = savedGet t.cSaved h' := by
  unfold rmCtx
  cases findC t h with
  | none => rfl
  | some s => exact savedGet_savedSet_ne _ _ hne
theorem dSaved_rmDescr_self (t : Tables) (h : Handle) : savedGet (rmDescr t h).dSaved h = seenD t h := by
  unfold rmDescr seenD
  cases findD t h with
  | none => rfl
  | some s => exact savedGet_savedSet_self _ _ _
theorem dSaved_rmDescr_ne (t : Tables) {h h' : Handle} (hne : h' ≠ h) : savedGet (rmDescr t h).dSaved h' = savedGet t.dSaved h' := by
  unfold rmDescr
  cases findD t h with
  | none => rfl
  | some s => exact savedGet_savedSet_ne _ _ hne

theorem seenS_rmState (t : Tables) (h h' : Handle) : seenS (rmState t h) h' = seenS t h' := by
  by_cases e : h' = h
  · subst e; rw [seenS, findS_rmState_self]; exact sSaved_rmState_self t h'
  · rw [seenS, seenS, findS_rmState_ne t e, sSaved_rmState_ne t e]
theorem seenC_rmCtx (t : Tables) (h h' : Handle) : seenC (rmCtx t h) h' = seenC t h' := by
  by_cases e : h' = h
  · subst e; rw [seenC, findC_rmCtx_self]; exact cSaved_rmCtx_self t h'
  · rw [seenC, seenC, findC_rmCtx_ne t e, cSaved_rmCtx_ne t e]
theorem seenD_rmDescr (t : Tables) (h h' : Handle) : seenD (rmDescr t h) h' = seenD t h' := by
  by_cases e : h' = h
  · subst e; rw [seenD, findD_rmDescr_self]; exact dSaved_rmDescr_self t h'
  · rw [seenD, seenD, findD_rmDescr_ne t e, dSaved_rmDescr_ne t e]

theorem seen_foldl_rmCtx (l : List CState) (t : Tables) (h : Handle) :
    seenD (l.foldl (fun t c => rmCtx t c.h) t) h = seenD t h ∧ seenS (l.foldl (fun t c => rmCtx t c.h) t) h = seenS t h ∧
    seenC (l.foldl (fun t c => rmCtx t c.h) t) h = seenC t h := by
  induction l generalizing t with
  | nil => exact ⟨rfl, rfl, rfl⟩
  | cons c cs ih =>
    obtain ⟨a, b, c'⟩ := ih (rmCtx t c.h)
    exact ⟨a.trans (seenD_congr (rmCtx_descrs ..) (rmCtx_dSaved ..) h), b.trans (seenS_congr (rmCtx_states ..) (rmCtx_sSaved ..) h),
      c'.trans (seenC_rmCtx ..)⟩

theorem seen_rmDescrAndStates (t : Tables) (d : Descr) (h : Handle) :
    seenD (rmDescrAndStates t d) h = seenD t h ∧ seenS (rmDescrAndStates t d) h = seenS t h ∧
    seenC (rmDescrAndStates t d) h = seenC t h := by
  obtain ⟨a, b, c⟩ := seen_foldl_rmCtx (ctxOf (rmState (rmDescr t d.handle) d.handle) d.handle) (rmState (rmDescr t d.handle) d.handle) h
  exact ⟨a.trans ((seenD_congr (rmState_descrs ..) (rmState_dSaved ..) h).trans (seenD_rmDescr ..)),
    b.trans ((seenS_rmState ..).trans (seenS_congr (rmDescr_states ..) (rmDescr_sSaved ..) h)),
    c.trans ((seenC_congr (rmState_ctx ..) (rmState_cSaved ..) h).trans (seenC_congr (rmDescr_ctx ..) (rmDescr_cSaved ..) h))⟩

theorem seen_foldl_rmDescrAndStates (l : List Descr) (t : Tables) (h : Handle) :
    seenD (l.foldl rmDescrAndStates t) h = seenD t h ∧ seenS (l.foldl rmDescrAndStates t) h = seenS t h ∧
    seenC (l.foldl rmDescrAndStates t) h = seenC t h := by
  induction l generalizing t with
  | nil => exact ⟨rfl, rfl, rfl⟩
  | cons d ds ih =>
    obtain ⟨a, b, c⟩ := ih (rmDescrAndStates t d)
    obtain ⟨a', b', c'⟩ := seen_rmDescrAndStates t d h
    exact ⟨a.trans a', b.trans b', c.trans c'⟩

theorem addState_ok_iff {t t' : Tables} {s : SState} :
    addState t s = .ok t' ↔ findS t s.dh = none ∧ t' = { t with states := t.states ++ [s] } := by
  unfold addState
  cases findS t s.dh <;> simp [eq_comm]
theorem addCtx_ok_iff {t t' : Tables} {c : CState} :
    addCtx t c = .ok t' ↔ findC t c.h = none ∧ t' = { t with ctx := t.ctx ++ [c] } := by
  unfold addCtx
  cases findC t c.h <;> simp [eq_comm]
theorem addDescr_ok_iff {t t' : Tables} {d : Descr} :
    addDescr t d = .ok t' ↔ findD t d.handle = none ∧ t' = { t with descrs := t.descrs ++ [d] } := by
  unfold addDescr
  cases findD t d.handle <;> simp [eq_comm]

theorem addState_error {t : Tables} {s : SState} {e : Err} (h : addState t s = .error e) : (findS t s.dh).isSome := by
  unfold addState at h; split at h
  · assumption
  · cases h
theorem addCtx_error {t : Tables} {c : CState} {e : Err} (h : addCtx t c = .error e) : (findC t c.h).isSome := by
  unfold addCtx at h; split at h
  · assumption
  · cases h
theorem addDescr_error {t : Tables} {d : Descr} {e : Err} (h : addDescr t d = .error e) : (findD t d.handle).isSome := by
  unfold addDescr at h; split at h
  · assumption
  · cases h

theorem findS_append (t : Tables) (s : SState) (h : Handle) :
    findS { t with states := t.states ++ [s] } h = (findS t h).or (if s.dh = h then some s else none) :=
  find_append_single (fun x : SState => x.dh) _ _ _
theorem findC_append (t : Tables) (c : CState) (h : Handle) :
    findC { t with ctx := t.ctx ++ [c] } h = (findC t h).or (if c.h = h then some c else none) :=
  find_append_single (fun x : CState => x.h) _ _ _
theorem findD_append (t : Tables) (d : Descr) (h : Handle) :
    findD { t with descrs := t.descrs ++ [d] } h = (findD t h).or (if d.handle = h then some d else none) :=
  find_append_single (fun x : Descr => x.handle) _ _ _

/-! ## replace / insert one single state: `rmState` then `add_object` -/

def putState (t : Tables) (h : Handle) (n : SState) : Tables :=
  { rmState t h with states := (rmState t h).states ++ [n] }

@[simp] theorem putState_descrs (t : Tables) (h : Handle) (n : SState) : (putState t h n).descrs = t.descrs := rmState_descrs t h
@[simp] theorem putState_ctx (t : Tables) (h : Handle) (n : SState) : (putState t h n).ctx = t.ctx := rmState_ctx t h
@[simp] theorem putState_dSaved (t : Tables) (h : Handle) (n : SState) : (putState t h n).dSaved = t.dSaved := rmState_dSaved t h
@[simp] theorem putState_cSaved (t : Tables) (h : Handle) (n : SState) : (putState t h n).cSaved = t.cSaved := rmState_cSaved t h
@[simp] theorem putState_sSaved (t : Tables) (h : Handle) (n : SState) : (putState t h n).sSaved = (rmState t h).sSaved := rfl

theorem putState_states (t : Tables) (h : Handle) (n : SState) :
    (putState t h n).states = t.states.filter (fun x => x.dh != h) ++ [n] :=
  congrArg (· ++ [n]) (rmState_states t h)

theorem findS_putState_self (t : Tables) {h : Handle} {n : SState} (hn : n.dh = h) : findS (putState t h n) h = some n := by
  unfold putState
  rw [findS_append, findS_rmState_self, if_pos hn]; rfl
theorem findS_putState_ne (t : Tables) {h h' : Handle} {n : SState} (hn : n.dh = h) (hne : h' ≠ h) :
    findS (putState t h n) h' = findS t h' := by
  unfold putState
  rw [findS_append, findS_rmState_ne _ hne, if_neg (fun e => hne (e.symm.trans hn)), Option.or_none]
@[simp] theorem findD_putState (t : Tables) (h h' : Handle) (n : SState) : findD (putState t h n) h' = findD t h' := by
  rw [findD, putState_descrs]; rfl
@[simp] theorem findC_putState (t : Tables) (h h' : Handle) (n : SState) : findC (putState t h n) h' = findC t h' := by
  rw [findC, putState_ctx]; rfl

theorem addState_rmState (t : Tables) {h : Handle} {n : SState} (hn : n.dh = h) :
    addState (rmState t h) n = .ok (putState t h n) :=
  addState_ok_iff.2 ⟨hn ▸ findS_rmState_self t n.dh, rfl⟩

theorem mem_putState {t : Tables} {h : Handle} {n s : SState} (hs : s ∈ (putState t h n).states) :
    s = n ∨ (s ∈ t.states ∧ s.dh ≠ h) := by
  rw [putState_states, List.mem_append, List.mem_singleton, List.mem_filter, bne_iff_ne] at hs
  exact hs.symm

theorem putState_sKeys {t : Tables} (hk : (t.states.map (·.dh)).Nodup) {h : Handle} {n : SState} (hn : n.dh = h) :
    ((putState t h n).states.map (·.dh)).Nodup := by
  rw [putState_states]; exact nodup_replace (fun x : SState => x.dh) hk hn

theorem seenS_putState_self (t : Tables) {h : Handle} {n : SState} (hn : n.dh = h) : seenS (putState t h n) h = some n.sv := by
  rw [seenS, findS_putState_self t hn]
theorem seenS_putState_ne (t : Tables) {h h' : Handle} {n : SState} (hn : n.dh = h) (hne : h' ≠ h) :
    seenS (putState t h n) h' = seenS t h' := by
  rw [seenS, seenS, findS_putState_ne t hn hne, putState_sSaved, sSaved_rmState_ne t hne]

/-- `rmCtx` then (unless the item deletes the state) `add_object` -/
def putCtx (t : Tables) (h : Handle) : Option CState → Tables
  | none => rmCtx t h
  | some n => { rmCtx t h with ctx := (rmCtx t h).ctx ++ [n] }

@[simp] theorem putCtx_descrs (t : Tables) (h : Handle) (n : Option CState) : (putCtx t h n).descrs = t.descrs := by
  cases n <;> exact rmCtx_descrs t h
@[simp] theorem putCtx_states (t : Tables) (h : Handle) (n : Option CState) : (putCtx t h n).states = t.states := by
  cases n <;> exact rmCtx_states t h
@[simp] theorem putCtx_dSaved (t : Tables) (h : Handle) (n : Option CState) : (putCtx t h n).dSaved = t.dSaved := by
  cases n <;> exact rmCtx_dSaved t h
@[simp] theorem putCtx_sSaved (t : Tables) (h : Handle) (n : Option CState) : (putCtx t h n).sSaved = t.sSaved := by
  cases n <;> exact rmCtx_sSaved t h
@[simp] theorem putCtx_cSaved (t : Tables) (h : Handle) (n : Option CState) : (putCtx t h n).cSaved = (rmCtx t h).cSaved := by
  cases n <;> rfl

theorem putCtx_ctx (t : Tables) (h : Handle) (n : Option CState) :
    (putCtx t h n).ctx = t.ctx.filter (fun x => x.h != h) ++ n.toList := by
  cases n with
  | none => exact (rmCtx_ctx t h).trans (List.append_nil _).symm
  | some n => exact congrArg (· ++ [n]) (rmCtx_ctx t h)

theorem findC_putCtx_self (t : Tables) {h : Handle} {n : Option CState} (hn : ∀ x ∈ n, x.h = h) : findC (putCtx t h n) h = n := by
  cases n with
  | none => exact findC_rmCtx_self t h
  | some x =>
    unfold putCtx
    rw [findC_append, findC_rmCtx_self, if_pos (hn x rfl)]; rfl
theorem findC_putCtx_ne (t : Tables) {h h' : Handle} {n : Option CState} (hn : ∀ x ∈ n, x.h = h) (hne : h' ≠ h) :
    findC (putCtx t h n) h' = findC t h' := by
  cases n with
  | none => exact findC_rmCtx_ne t hne
  | some x =>
    unfold putCtx
    rw [findC_append, findC_rmCtx_ne _ hne, if_neg (fun e => hne (e.symm.trans (hn x rfl))), Option.or_none]
@[simp] theorem findD_putCtx (t : Tables) (h h' : Handle) (n : Option CState) : findD (putCtx t h n) h' = findD t h' := by
  rw [findD, putCtx_descrs]; rfl
@[simp] theorem findS_putCtx (t : Tables) (h h' : Handle) (n : Option CState) : findS (putCtx t h n) h' = findS t h' := by
  rw [findS, putCtx_states]; rfl

theorem addCtx_rmCtx (t : Tables) {h : Handle} {n : CState} (hn : n.h = h) :
    addCtx (rmCtx t h) n = .ok (putCtx t h (some n)) :=
  addCtx_ok_iff.2 ⟨hn ▸ findC_rmCtx_self t n.h, rfl⟩

theorem mem_putCtx {t : Tables} {h : Handle} {n : Option CState} {c : CState} (hc : c ∈ (putCtx t h n).ctx) :
    some c = n ∨ (c ∈ t.ctx ∧ c.h ≠ h) := by
  rw [putCtx_ctx, List.mem_append, Option.mem_toList, List.mem_filter, bne_iff_ne] at hc
  exact hc.symm.imp_left Eq.symm

theorem putCtx_cKeys {t : Tables} (hk : (t.ctx.map (·.h)).Nodup) {h : Handle} {n : Option CState} (hn : ∀ x ∈ n, x.h = h) :
    ((putCtx t h n).ctx.map (·.h)).Nodup := by
  rw [putCtx_ctx]
  cases n with
  | none => rw [Option.toList_none, List.append_nil]; exact nodup_filter_key _ hk _
  | some x => exact nodup_replace (fun x : CState => x.h) hk (hn x rfl)

theorem seenC_putCtx_ne (t : Tables) {h h' : Handle} {n : Option CState} (hn : ∀ x ∈ n, x.h = h) (hne : h' ≠ h) :
    seenC (putCtx t h n) h' = seenC t h' := by
  rw [seenC, seenC, findC_putCtx_ne t hn hne, putCtx_cSaved, cSaved_rmCtx_ne t hne]

theorem seenC_putCtx_self (t : Tables) {h : Handle} {n : Option CState} (hn : ∀ x ∈ n, x.h = h) :
    seenC (putCtx t h n) h = match n with | some x => some x.sv | none => seenC t h := by
  rw [seenC, findC_putCtx_self t hn]
  cases n with
  | some x => rfl
  | none => exact (congrArg (savedGet · h) (putCtx_cSaved t h none)).trans (cSaved_rmCtx_self t h)

/-! ## frames: a state commit touches only `states`/`sSaved`, a context commit only `ctx`/`cSaved` -/

def FrS (t' t : Tables) : Prop := t'.descrs = t.descrs ∧ t'.ctx = t.ctx ∧ t'.dSaved = t.dSaved ∧ t'.cSaved = t.cSaved
def FrC (t' t : Tables) : Prop := t'.descrs = t.descrs ∧ t'.states = t.states ∧ t'.dSaved = t.dSaved ∧ t'.sSaved = t.sSaved

theorem FrS.trans {a b c : Tables} (h1 : FrS a b) (h2 : FrS b c) : FrS a c :=
  ⟨h1.1.trans h2.1, h1.2.1.trans h2.2.1, h1.2.2.1.trans h2.2.2.1, h1.2.2.2.trans h2.2.2.2⟩
theorem FrC.trans {a b c : Tables} (h1 : FrC a b) (h2 : FrC b c) : FrC a c :=
  ⟨h1.1.trans h2.1, h1.2.1.trans h2.2.1, h1.2.2.1.trans h2.2.2.1, h1.2.2.2.trans h2.2.2.2⟩
theorem FrS.rm (t : Tables) (h : Handle) : FrS (rmState t h) t :=
  ⟨rmState_descrs t h, rmState_ctx t h, rmState_dSaved t h, rmState_cSaved t h⟩
theorem FrC.rm (t : Tables) (h : Handle) : FrC (rmCtx t h) t :=
  ⟨rmCtx_descrs t h, rmCtx_states t h, rmCtx_dSaved t h, rmCtx_sSaved t h⟩
theorem FrS.add {t t2 : Tables} {n : SState} (h : addState t n = .ok t2) : FrS t2 t := by
  obtain ⟨_, rfl⟩ := addState_ok_iff.1 h; exact ⟨rfl, rfl, rfl, rfl⟩
theorem FrC.add {t t2 : Tables} {n : CState} (h : addCtx t n = .ok t2) : FrC t2 t := by
  obtain ⟨_, rfl⟩ := addCtx_ok_iff.1 h; exact ⟨rfl, rfl, rfl, rfl⟩

end Sdc.Mdib
