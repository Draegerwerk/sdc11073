import SdcModel.Proofs.MdibWFm
import SdcModel.Proofs.MdibSubtree
/-!
# a descriptor transaction before its commit: what its calls collect (`DTxOK`, preserved by every `dCall`) and what the
consistency check guarantees about the handles that will disappear (`DStatic`)
-/
set_option linter.unusedSimpArgs false
namespace Sdc.Mdib

/-- the descriptor dict `L` holds, under handle `H`, an item whose new descriptor satisfies `Q` -/
def HasNew (L : List (Handle × DItem)) (H : Handle) (Q : Descr → Prop) : Prop := ∃ it m, (H, it) ∈ L ∧ it.new = some m ∧ Q m

theorem HasNew.set {L : List (Handle × DItem)} {H : Handle} {Q : Descr → Prop} (h : HasNew L H Q) (hn : (L.map (·.1)).Nodup)
    {k : Handle} {it' : DItem} (hk : ∀ it m, dictGet L k = some it → it.new = some m → Q m → ∃ m', it'.new = some m' ∧ Q m') :
    HasNew (dictSet L k it') H Q := by
  obtain ⟨it, m, hm, e, q⟩ := h
  by_cases e' : H = k
  · subst e'
    obtain ⟨m', e'', q'⟩ := hk it m (dictGet_of_mem_nodup hn hm) e q
    exact ⟨it', m', mem_dictSet_self _ _ _, e'', q'⟩
  · exact ⟨it, m, mem_dictSet_of_ne _ hm e', e, q⟩

/-- What the calls of a descriptor script have collected in `tx`, over the tables `t` the script started from.
    `d*`: the descriptor items (`dSome`: an item without old descriptor creates one; `dUpd`: an update keeps the kind and
    takes the next version; `dCre`: a creation continues above the saved version). `s*` / `c*`: the single-state and
    context-state items, as in `SItemsOK` / `CItemsOK`, except that the descriptor a state refers to is looked up among
    the new descriptors of `tx` (`HasNew`): `sDescr`, `cOdh` (descriptor of the old state) and the last clause of `cNew`,
    whose four clauses are: key, same descriptor as the old state, version bump, descriptor and its version. -/
structure DTxOK (t : Tables) (tx : DTx) : Prop where
  dKeys : (tx.descr.map (·.1)).Nodup
  dOld : ∀ p ∈ tx.descr, p.2.old = findD t p.1
  dNew : ∀ p ∈ tx.descr, ∀ n ∈ p.2.new, n.handle = p.1
  dSome : ∀ p ∈ tx.descr, p.2.old = none → p.2.new ≠ none
  dUpd : ∀ p ∈ tx.descr, ∀ o ∈ p.2.old, ∀ n ∈ p.2.new, n.kind = o.kind ∧ n.ver = o.ver + 1
  dCre : ∀ p ∈ tx.descr, p.2.old = none → ∀ n ∈ p.2.new, savedGet t.dSaved p.1 ≤ some n.ver
  sKeys : (tx.sItems.map (·.1)).Nodup
  sDh : ∀ p ∈ tx.sItems, p.2.new.dh = p.1
  sOld : ∀ p ∈ tx.sItems, p.2.old = findS t p.1
  sKind : ∀ p ∈ tx.sItems, p.2.new.kind ≠ .context
  sDescr : ∀ p ∈ tx.sItems, HasNew tx.descr p.1 (fun n => n.kind ≠ .context)
  sBump : ∀ p ∈ tx.sItems, (∀ o, findS t p.1 = some o → o.sv < p.2.new.sv) ∧
    (findS t p.1 = none → savedGet t.sSaved p.1 ≤ some p.2.new.sv)
  cKeys : (tx.cItems.map (·.1)).Nodup
  cOld : ∀ p ∈ tx.cItems, p.2.old = findC t p.1
  cOdh : ∀ p ∈ tx.cItems, ∀ o ∈ p.2.old, HasNew tx.descr o.dh (fun _ => True)
  cNew : ∀ p ∈ tx.cItems, ∀ n ∈ p.2.new, n.h = p.1 ∧ (∀ o ∈ p.2.old, o.dh = n.dh) ∧
    ((∀ o, findC t p.1 = some o → o.sv < n.sv) ∧ (findC t p.1 = none → savedGet t.cSaved p.1 ≤ some n.sv)) ∧
    HasNew tx.descr n.dh (fun m => m.kind = .context ∧ n.dv = m.ver)

theorem DTxOK.init (t : Tables) (v : Nat) : DTxOK t { newVer := v } := by
  have nil : ∀ {α : Type} {Q : α → Prop}, ∀ p ∈ ([] : List α), Q p := fun _ h => (List.not_mem_nil h).elim
  exact ⟨List.nodup_nil, nil, nil, nil, nil, nil, List.nodup_nil, nil, nil, nil, nil, nil, List.nodup_nil, nil, nil, nil⟩

/-- assigning a descriptor item: where it replaces an item with a new descriptor it offers one of the same kind and version,
    which is all the state items know of their descriptor; `h1`–`h5`: `dOld`, `dNew`, `dSome`, `dUpd`, `dCre` of the item -/
theorem DTxOK.setD {t : Tables} {tx : DTx} (hi : DTxOK t tx) {h : Handle} {it : DItem}
    (hk : ∀ it0 m, dictGet tx.descr h = some it0 → it0.new = some m → ∃ m', it.new = some m' ∧ m'.kind = m.kind ∧ m'.ver = m.ver)
    (h1 : it.old = findD t h) (h2 : ∀ n ∈ it.new, n.handle = h) (h3 : it.old = none → it.new ≠ none)
    (h4 : ∀ o ∈ it.old, ∀ n ∈ it.new, n.kind = o.kind ∧ n.ver = o.ver + 1)
    (h5 : it.old = none → ∀ n ∈ it.new, savedGet t.dSaved h ≤ some n.ver) :
    DTxOK t { tx with descr := dictSet tx.descr h it } := by
  have hset : ∀ {H : Handle} {Q : Descr → Prop}, (∀ m m' : Descr, m'.kind = m.kind → m'.ver = m.ver → Q m → Q m') →
      HasNew tx.descr H Q → HasNew (dictSet tx.descr h it) H Q := by
    intro H Q hQ hn
    refine hn.set hi.dKeys (fun it0 m hg e q => ?_)
    obtain ⟨m', e', ek, ev⟩ := hk it0 m hg e
    exact ⟨m', e', hQ m m' ek ev q⟩
  refine ⟨dictSet_keys_nodup hi.dKeys h it, forall_dictSet hi.dOld h1, forall_dictSet hi.dNew h2, forall_dictSet hi.dSome h3,
    forall_dictSet hi.dUpd h4, forall_dictSet hi.dCre h5, hi.sKeys, hi.sDh, hi.sOld, hi.sKind, ?_, hi.sBump,
    hi.cKeys, hi.cOld, ?_, ?_⟩
  · intro p hp; exact hset (fun _ _ ek _ q => ek ▸ q) (hi.sDescr p hp)
  · intro p hp o ho; exact hset (fun _ _ _ _ q => q) (hi.cOdh p hp o ho)
  · intro p hp n hn
    obtain ⟨a, b, c, d⟩ := hi.cNew p hp n hn
    exact ⟨a, b, c, hset (fun _ _ ek ev q => ⟨ek ▸ q.1, ev ▸ q.2⟩) d⟩

/-- `setD` under a key the descriptor dict does not have yet (`h1`–`h5` as there: `dOld`, `dNew`, `dSome`, `dUpd`, `dCre` of the item) -/
theorem DTxOK.addD {t : Tables} {tx : DTx} (hi : DTxOK t tx) {h : Handle} {it : DItem} (hk : dictGet tx.descr h = none)
    (h1 : it.old = findD t h) (h2 : ∀ n ∈ it.new, n.handle = h) (h3 : it.old = none → it.new ≠ none)
    (h4 : ∀ o ∈ it.old, ∀ n ∈ it.new, n.kind = o.kind ∧ n.ver = o.ver + 1)
    (h5 : it.old = none → ∀ n ∈ it.new, savedGet t.dSaved h ≤ some n.ver) :
    DTxOK t { tx with descr := dictSet tx.descr h it } :=
  hi.setD (fun _ _ hg => by rw [hk] at hg; cases hg) h1 h2 h3 h4 h5

/-- assigning a single-state item; `h1`–`h5`: `sDh`, `sOld`, `sKind`, `sDescr`, `sBump` of the item -/
theorem DTxOK.setS {t : Tables} {tx : DTx} (hi : DTxOK t tx) {h : Handle} {it : SItem}
    (h1 : it.new.dh = h) (h2 : it.old = findS t h) (h3 : it.new.kind ≠ .context)
    (h4 : HasNew tx.descr h (fun n => n.kind ≠ .context))
    (h5 : (∀ o, findS t h = some o → o.sv < it.new.sv) ∧ (findS t h = none → savedGet t.sSaved h ≤ some it.new.sv)) :
    DTxOK t { tx with sItems := dictSet tx.sItems h it } :=
  { hi with
    sKeys := dictSet_keys_nodup hi.sKeys h it, sDh := forall_dictSet hi.sDh h1, sOld := forall_dictSet hi.sOld h2,
    sKind := forall_dictSet hi.sKind h3, sDescr := forall_dictSet hi.sDescr h4, sBump := forall_dictSet hi.sBump h5 }

/-- assigning a context-state item; `h1`–`h3`: `cOld`, `cOdh`, `cNew` of the item -/
theorem DTxOK.setC {t : Tables} {tx : DTx} (hi : DTxOK t tx) {h : Handle} {it : CItem}
    (h1 : it.old = findC t h) (h2 : ∀ o ∈ it.old, HasNew tx.descr o.dh (fun _ => True))
    (h3 : ∀ n ∈ it.new, n.h = h ∧ (∀ o ∈ it.old, o.dh = n.dh) ∧
      ((∀ o, findC t h = some o → o.sv < n.sv) ∧ (findC t h = none → savedGet t.cSaved h ≤ some n.sv)) ∧
      HasNew tx.descr n.dh (fun m => m.kind = .context ∧ n.dv = m.ver)) :
    DTxOK t { tx with cItems := dictSet tx.cItems h it } :=
  { hi with
    cKeys := dictSet_keys_nodup hi.cKeys h it, cOld := forall_dictSet hi.cOld h1, cOdh := forall_dictSet hi.cOdh h2,
    cNew := forall_dictSet hi.cNew h3 }

/-- the `addDescr` call: a descriptor item `(none, d)`, and with it (second part) the single state the call may create -/
theorem DTxOK.addDescr {t : Tables} (hw : WF t) {tx : DTx} (hi : DTxOK t tx) (d : Descr) (hnd : dictGet tx.descr d.handle = none)
    (hnf : findD t d.handle = none) (hver : savedGet t.dSaved d.handle ≤ some d.ver) :
    DTxOK t { tx with descr := dictSet tx.descr d.handle ⟨none, some d⟩ } ∧
    (∀ b sv, d.kind ≠ .context → savedGet t.sSaved d.handle ≤ some sv →
      DTxOK t { tx with descr := dictSet tx.descr d.handle ⟨none, some d⟩,
                        sItems := dictSet tx.sItems d.handle ⟨none, ⟨d.handle, d.ver, sv, d.kind, b⟩⟩ }) := by
  have hi1 := hi.addD (h := d.handle) (it := ⟨none, some d⟩)
      hnd hnf.symm (by intro n hn; cases hn; rfl) (by simp) (by simp) (by intro _ n hn; cases hn; exact hver)
  refine ⟨hi1, ?_⟩
  intro b sv hkind hsv
  have hnoS : findS t d.handle = none := by
    cases hf : findS t d.handle with
    | none => rfl
    | some s =>
      obtain ⟨e, hs⟩ := findS_some hf
      obtain ⟨d', hd', e1, _⟩ := hw.sRef s hs
      have := (find_none_iff (fun d : Descr => d.handle)).1 hnf
      exact absurd (by rw [← e, ← e1]; exact List.mem_map_of_mem hd') this
  exact hi1.setS rfl hnoS.symm hkind ⟨_, _, mem_dictSet_self _ _ _, rfl, hkind⟩ ⟨by simp [hnoS], fun _ => hsv⟩

/-- what a well-formed `Entity` / `MultiStateEntity` object handed to `DescriptorTransaction.write_entity` looks like:
    its descriptor has the kind of the table's descriptor with that handle (if there is one); a `MultiStateEntity` belongs to a
    context descriptor, its states name this descriptor, and their handles are either states of this descriptor or unused
    (`entity.new_state` generates a fresh handle). The real API produces only such objects (`mdib.entities.by_handle`). -/
def dCallOK (t : Tables) : DCall → Prop
  | .writeEntity d0 _ multi =>
    (∀ o ∈ findD t d0.handle, o.kind = d0.kind) ∧
    (∀ cs ∈ multi, d0.kind = .context ∧ ∀ c ∈ cs, c.dh = d0.handle ∧ ∀ o ∈ findC t c.h, o.dh = d0.handle)
  | _ => True

instance (t : Tables) : DecidablePred (dCallOK t) := fun c => by
  cases c <;> (unfold dCallOK; infer_instance)

/-- every `write_entity` call of the script passes a well-formed entity (`dCallOK`); the classic calls are unrestricted -/
def DScriptOK (t : Tables) (s : DScript) : Prop := ∀ c ∈ s.calls, dCallOK t c
instance (t : Tables) (s : DScript) : Decidable (DScriptOK t s) := by unfold DScriptOK; infer_instance

theorem find_ctxOf {t : Tables} (hw : WF t) {H k : Handle} (hk : ∀ o ∈ findC t k, o.dh = H) :
    (ctxOf t H).find? (fun o => o.h == k) = findC t k := by
  rw [ctxOf, Keyed.find_filter_nodup (fun c : CState => c.h) _ hw.cKeys k]
  show (findC t k).filter _ = findC t k
  cases hf : findC t k with
  | none => rfl
  | some o => rw [Option.filter_some, if_pos (by simpa using hk o hf)]

/- The `let`s of `dCall` are kept (`simp -zeta`) and taken into the context (`extract_lets`), so that every step speaks of a
   variable instead of a copy of its value; an `if` is decided by `by_cases` + `rw`, since `split` would unfold the `let`s
   below it again. -/
theorem dCall_addDescr_ok {t : Tables} (hw : WF t) {tx tx' : DTx} {d0 : Descr} {st : Option Nat} (hi : DTxOK t tx)
    (h : dCall t tx (.addDescr d0 st) = .ok tx') : DTxOK t tx' := by
  simp -zeta only [dCall] at h
  extract_lets d1 at h
  -- all that matters of the stored descriptor: the handle of `d0` and a version above the saved one
  obtain ⟨e1, hver⟩ : d1.handle = d0.handle ∧ savedGet t.dSaved d0.handle ≤ some d1.ver := by
    cases hsv : savedGet t.dSaved d0.handle <;> simp [d1, hsv]
  clear_value d1
  by_cases hnd : (dictGet tx.descr d0.handle).isSome = true
  · rw [if_pos hnd] at h; cases h
  by_cases hnf : (findD t d0.handle).isSome = true
  · rw [if_neg hnd, if_pos hnf] at h; cases h
  rw [if_neg hnd, if_neg hnf] at h
  split at h; · cases h
  rename_i m _
  extract_lets d tx1 sv at h
  have key := DTxOK.addDescr hw hi d (by simpa [d, e1] using hnd) (by simpa [d, e1] using hnf) (by simpa [d, e1] using hver)
  cases st with
  | none => have e := Except.ok.inj h; subst e; exact key.1
  | some b =>
    dsimp only at h
    by_cases hkind : (d.kind == Kind.context) = true
    · rw [if_pos hkind] at h; cases h
    by_cases hs : (dictGet tx1.sItems d.handle).isSome = true
    · rw [if_neg hkind, if_pos hs] at h; cases h
    rw [if_neg hkind, if_neg hs] at h
    have e := Except.ok.inj h; subst e
    refine key.2 b sv (by simpa using hkind) ?_
    cases hsv : savedGet t.sSaved d.handle <;> simp [sv, hsv]

theorem dCall_writeEntity_ok {t : Tables} (hw : WF t) {tx tx' : DTx} {d0 : Descr} {single : Option (Nat × Nat)}
    {multi : Option (List CState)} (hc : dCallOK t (.writeEntity d0 single multi)) (hi : DTxOK t tx)
    (h : dCall t tx (.writeEntity d0 single multi) = .ok tx') : DTxOK t tx' := by
  simp -zeta only [dCall] at h
  by_cases hnd : (dictGet tx.descr d0.handle).isSome = true
  · rw [if_pos hnd] at h; cases h
  rw [if_neg hnd] at h
  extract_lets orig ver d tx1 olds put old at h
  obtain ⟨hc1, hc2⟩ := hc
  -- the version `write_entity` gives the descriptor: next after the live one, else above the saved one
  obtain ⟨hv1, hv2⟩ : (∀ o, orig = some o → ver = o.ver + 1) ∧ (orig = none → savedGet t.dSaved d0.handle ≤ some ver) := by
    constructor
    · intro o ho; simp [ver, ho]
    · intro ho; simp only [ver, ho]; cases savedGet t.dSaved d0.handle <;> simp
  clear_value ver
  have hi1 : DTxOK t tx1 := by
    refine hi.addD (by simpa using hnd) rfl (by intro n hn; cases hn; rfl) (by simp) ?_ ?_
    · intro o ho n hn; cases hn; exact ⟨(hc1 o ho).symm, hv1 o ho⟩
    · intro ho n hn; cases hn; exact hv2 ho
  have hH : ∀ Q : Descr → Prop, Q d → HasNew tx1.descr d0.handle Q := fun Q q => ⟨_, _, mem_dictSet_self _ _ _, rfl, q⟩
  cases multi with
  | some cs =>
    dsimp -zeta only at h
    extract_lets tx2 gone at h
    have e := Except.ok.inj h; subst e
    obtain ⟨hkc, hcs⟩ := hc2 cs rfl
    -- both loops assign context state items only; the descriptor item of the entity stays
    have h2 : DTxOK t tx2 ∧ tx2.descr = tx1.descr := by
      refine foldl_inv (P := fun x => DTxOK t x ∧ x.descr = tx1.descr) ?_ ⟨hi1, rfl⟩
      intro x c hc ⟨hx, hxd⟩
      obtain ⟨hcd, hco⟩ := hcs c hc
      refine ⟨?_, hxd⟩
      simp only [put, olds, d]
      rw [find_ctxOf hw hco]
      refine hx.setC rfl ?_ ?_
      · intro o ho; rw [hco o ho, hxd]; exact hH _ trivial
      · intro n hn
        simp only [Option.mem_def, Option.some.injEq] at hn; subst hn
        refine ⟨rfl, fun o ho => (hco o ho).trans hcd.symm, ⟨?_, ?_⟩, ?_⟩
        · intro o ho; simp [ho]
        · intro ho; simp only [ho]; cases savedGet t.cSaved c.h <;> simp
        · simp only [hcd, hxd]; exact hH _ ⟨hkc, rfl⟩
    refine (foldl_inv (P := fun x => DTxOK t x ∧ x.descr = tx1.descr) ?_ h2).1
    intro x o ho ⟨hx, hxd⟩
    simp only [gone, olds, ctxOf, List.mem_filter, beq_iff_eq] at ho
    refine ⟨hx.setC (hw.findC_of_mem ho.1.1).symm ?_ (fun _ hn => nomatch hn), hxd⟩
    intro o' ho'; cases ho'; rw [ho.1.2, hxd]; exact hH _ trivial
  | none =>
    dsimp only at h
    cases single with
    | none => have e := Except.ok.inj h; subst e; exact hi1
    | some sb =>
      obtain ⟨sv0, b⟩ := sb
      dsimp -zeta only at h
      by_cases hkind : (d.kind == Kind.context) = true
      · rw [if_pos hkind] at h; cases h
      rw [if_neg hkind] at h
      have e := Except.ok.inj h; subst e
      have hkind' : ¬ d0.kind = .context := by simpa using hkind
      refine hi1.setS rfl rfl hkind' (hH _ hkind') ⟨?_, ?_⟩
      · intro o ho; simp [old, d, ho]
      · intro ho; simp only [old, d, ho]; cases savedGet t.sSaved d0.handle <;> simp

theorem dCall_ok {t : Tables} (hw : WF t) (hk : KOK t) {tx tx' : DTx} {c : DCall} (hc : dCallOK t c) (hi : DTxOK t tx)
    (h : dCall t tx c = .ok tx') : DTxOK t tx' := by
  cases c with
  | addDescr d0 st => exact dCall_addDescr_ok hw hi h
  | removeDescr h0 =>
    simp only [dCall] at h
    split at h; · cases h
    rename_i hnd
    split at h; · cases h
    rename_i d hd
    cases h
    exact hi.addD (by simpa using hnd) hd.symm (by simp) (by simp) (by simp) (by simp)
  | getDescr h0 =>
    simp only [dCall] at h
    split at h; · cases h
    rename_i hnd
    split at h; · cases h
    rename_i d hd
    cases h
    refine hi.addD (by simpa using hnd) hd.symm ?_ (by simp) ?_ (by simp)
    · intro n hn; cases hn; exact (findD_some hd).1
    · intro o ho n hn; cases ho; cases hn; exact ⟨rfl, rfl⟩
  | getState h0 =>
    simp only [dCall] at h
    split at h; · cases h
    rename_i it hit
    split at h; · cases h
    rename_i d hd
    by_cases hkind : (d.kind == Kind.context) = true
    · rw [if_pos hkind] at h; cases h
    by_cases hs0 : (dictGet tx.sItems h0).isSome = true
    · rw [if_neg hkind, if_pos hs0] at h; cases h
    rw [if_neg hkind, if_neg hs0] at h
    split at h; · cases h
    rename_i s hs
    cases h
    have hs' := findS_some hs
    refine hi.setS hs'.1 hs.symm (hk.kS s hs'.2) ⟨it, d, dictGet_some_mem hit, hd, by simpa using hkind⟩ ?_
    simp [hs]
  | setDescrBody h0 b =>
    simp only [dCall] at h
    split at h
    · rename_i o d hit
      cases h
      have hm := dictGet_some_mem hit
      refine hi.setD ?_ (hi.dOld _ hm) ?_ (by simp) ?_ ?_
      · intro it0 m hg e; rw [hit] at hg; cases hg; cases e; exact ⟨_, rfl, rfl, rfl⟩
      · intro n hn; cases hn; exact hi.dNew _ hm d rfl
      · intro o' ho n hn; cases hn; exact hi.dUpd _ hm o' ho d rfl
      · intro ho n hn; cases hn; exact hi.dCre _ hm ho d rfl
    · cases h
  | setStateBody h0 b =>
    simp only [dCall] at h
    split at h
    · rename_i it hit
      cases h
      have hm := dictGet_some_mem hit
      exact hi.setS (hi.sDh _ hm) (hi.sOld _ hm) (hi.sKind _ hm) (hi.sDescr _ hm) (hi.sBump _ hm)
    · cases h
  | writeEntity d0 single multi => exact dCall_writeEntity_ok hw hc hi h

theorem dCalls_ok {t : Tables} (hw : WF t) (hk : KOK t) {s : DScript} (hs : DScriptOK t s) {tx : DTx}
    (h : runCalls (dCall t) s.catchErrors { newVer := t.ver + 1 } s.calls = .ok tx) : DTxOK t tx :=
  runCalls_inv_of (fun tx : DTx => DTxOK t tx) (dCallOK t) (fun _ _ _ hg hp hc => dCall_ok hw hk hg hp hc) _ _ _ _ hs
    (DTxOK.init t _) h

/-- What the consistency check fixes before the first write, about the handles `del` that will disappear (always
    `deletedHandles t₀ tx`, see `dStatic`; a parameter so that the commit lemmas need not unfold it): they are in the table and
    closed under children (`delSub`, `delClosed`), contain every deleted item (`delRoot`) and no updated one (`updNotDel`),
    and the parent of a created descriptor is created too or stays (`crePar`). -/
structure DStatic (t₀ : Tables) (tx : DTx) (del : List Handle) : Prop where
  delSub : ∀ h ∈ del, ∃ d ∈ t₀.descrs, d.handle = h
  delClosed : ∀ q ∈ del, ∀ d ∈ t₀.descrs, d.parent = some q → d.handle ∈ del
  delRoot : ∀ p ∈ tx.descr, ∀ o, p.2 = ⟨some o, none⟩ → p.1 ∈ del
  updNotDel : ∀ p ∈ tx.descr, ∀ o n, p.2 = ⟨some o, some n⟩ → p.1 ∉ del
  crePar : ∀ p ∈ tx.descr, ∀ n, p.2 = ⟨none, some n⟩ → ∀ q ∈ n.parent,
    (∃ m, (q, ⟨none, some m⟩) ∈ tx.descr) ∨ (q ∉ del ∧ ∃ d ∈ t₀.descrs, d.handle = q)

theorem mem_toDelOf {tx : DTx} {h : Handle} :
    h ∈ toDelOf tx ↔ ∃ p ∈ tx.descr, ∃ o, p.2 = ⟨some o, none⟩ ∧ o.handle = h := by
  simp only [toDelOf, List.mem_filterMap]
  constructor
  · rintro ⟨⟨k, _ | o, _ | n⟩, hp, hm⟩ <;> cases hm
    exact ⟨_, hp, _, rfl, rfl⟩
  · rintro ⟨p, hp, o, e, rfl⟩
    exact ⟨p, hp, by rw [e]⟩

theorem mem_toCreateOf {tx : DTx} {h : Handle} :
    h ∈ toCreateOf tx ↔ ∃ p ∈ tx.descr, ∃ n, p.2 = ⟨none, some n⟩ ∧ n.handle = h := by
  simp only [toCreateOf, List.mem_filterMap]
  constructor
  · rintro ⟨⟨k, _ | o, _ | n⟩, hp, hm⟩ <;> cases hm
    exact ⟨_, hp, _, rfl, rfl⟩
  · rintro ⟨p, hp, n, e, rfl⟩
    exact ⟨p, hp, by rw [e]⟩

theorem mem_toUpdateOf {tx : DTx} {h : Handle} :
    h ∈ toUpdateOf tx ↔ ∃ p ∈ tx.descr, ∃ o n, p.2 = ⟨some o, some n⟩ ∧ n.handle = h := by
  simp only [toUpdateOf, List.mem_filterMap]
  constructor
  · rintro ⟨⟨k, _ | o, _ | n⟩, hp, hm⟩ <;> cases hm
    exact ⟨_, hp, _, _, rfl, rfl⟩
  · rintro ⟨p, hp, o, n, e, rfl⟩
    exact ⟨p, hp, by rw [e]⟩

theorem mem_deletedHandles {t : Tables} {tx : DTx} {x : Handle} :
    x ∈ deletedHandles t tx ↔
      ∃ h ∈ toDelOf tx, x = h ∨ ∃ d ∈ subtreeBelow t (t.descrs.length + 1) h, d.handle = x := by
  simp only [deletedHandles, List.mem_flatMap, List.mem_append, List.mem_map, List.mem_singleton]
  constructor
  · rintro ⟨h, hh, hx | hx⟩
    · exact ⟨h, hh, .inr hx⟩
    · exact ⟨h, hh, .inl hx⟩
  · rintro ⟨h, hh, hx | hx⟩
    · exact ⟨h, hh, .inr hx⟩
    · exact ⟨h, hh, .inl hx⟩

theorem dStatic {t : Tables} (hw : WF t) {tx : DTx} (hi : DTxOK t tx) (hc : consistentD t tx = true) :
    DStatic t tx (deletedHandles t tx) := by
  have hroot : ∀ h ∈ toDelOf tx, ∃ o ∈ t.descrs, o.handle = h := by
    intro h hh
    obtain ⟨p, hp, o, e, rfl⟩ := mem_toDelOf.1 hh
    have := hi.dOld p hp
    rw [e] at this
    exact ⟨o, (findD_some this.symm).2, rfl⟩
  have hcons := hc
  unfold consistentD at hcons
  simp only [List.all_eq_true] at hcons
  refine ⟨?_, ?_, ?_, ?_, ?_⟩
  · intro x hx
    obtain ⟨h, hh, rfl | ⟨d, hd, rfl⟩⟩ := mem_deletedHandles.1 hx
    · exact hroot x hh
    · exact ⟨d, subtreeBelow_sub t _ h d hd, rfl⟩
  · intro q hq d hd hpar
    obtain ⟨h, hh, hx⟩ := mem_deletedHandles.1 hq
    obtain ⟨o, ho, rfl⟩ := hroot h hh
    refine mem_deletedHandles.2 ⟨o.handle, hh, .inr ⟨d, ?_, rfl⟩⟩
    rcases hx with rfl | ⟨q', hq', rfl⟩
    · exact subtree_closed hw.dKeys _ (q := o) (.inl rfl) (mem_childrenOf.2 ⟨hd, hpar⟩)
    · exact subtree_closed hw.dKeys _ (q := q') (.inr hq') (mem_childrenOf.2 ⟨hd, hpar⟩)
  · intro p hp o e
    have := hi.dOld p hp
    rw [e] at this
    exact mem_deletedHandles.2 ⟨p.1, mem_toDelOf.2 ⟨p, hp, o, e, (findD_some this.symm).1⟩, .inl rfl⟩
  · intro p hp o n e
    have := hcons p hp
    rw [e] at this
    simpa using this
  · intro p hp n e q hq
    have := hcons p hp
    rw [e] at this
    simp only [Option.mem_def] at hq
    simp only [hq, Bool.or_eq_true, Bool.and_eq_true, Bool.not_eq_true', List.contains_eq_mem, decide_eq_true_eq,
      decide_eq_false_iff_not] at this
    rcases this with h1 | ⟨h2, h3⟩
    · obtain ⟨p', hp', m, e', em⟩ := mem_toCreateOf.1 h1
      left
      refine ⟨m, ?_⟩
      have := hi.dNew p' hp' m (by rw [e']; rfl)
      obtain ⟨k, it⟩ := p'
      simp only at e' this
      subst e'; rw [← em, this]; exact hp'
    · right
      refine ⟨by simpa using h2, ?_⟩
      cases hf : findD t q with
      | none => simp [hf] at h3
      | some d => exact ⟨d, (findD_some hf).2, (findD_some hf).1⟩

end Sdc.Mdib
