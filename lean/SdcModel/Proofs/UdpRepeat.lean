import SdcModel.UdpRepeat
/-! The retransmission schedule read through its gaps (gap `i` of `times t gs` is `gs[i]`), and the bounded window of known
message ids (an id among the `k` newest is still known after `maxlen - k` further events). -/
namespace Sdc.UdpRepeat

/-- gap number `i` of a list of send times -/
def gap (ts : List Nat) (i : Nat) : Option Nat :=
  match ts[i]?, ts[i+1]? with
  | some a, some b => some (b - a)
  | _, _ => none

theorem times_length (t : Nat) (gs : List Nat) : (times t gs).length = gs.length + 1 := by
  induction gs generalizing t with
  | nil => rfl
  | cons g gs ih => rw [times, List.length_cons, ih, List.length_cons]

theorem gaps_length (u d n : Nat) : (gaps u d n).length = n := by
  induction n generalizing d with
  | zero => rfl
  | succ n ih => rw [gaps, List.length_cons, ih]

theorem schedule_length (p : Params) (init d : Nat) : (schedule p init d).length = 1 + p.repeats := by
  rw [schedule, times_length, gaps_length, Nat.add_comm]

theorem times_head (t : Nat) (gs : List Nat) : (times t gs)[0]? = some t := by
  cases gs <;> rfl

theorem gap_times (t : Nat) (gs : List Nat) (i : Nat) : gap (times t gs) i = gs[i]? := by
  induction gs generalizing t i with
  | nil => cases i <;> rfl
  | cons g gs ih =>
    cases i with
    | zero =>
      unfold gap
      simp only [times, List.getElem?_cons_zero, Nat.zero_add, List.getElem?_cons_succ, times_head, Nat.add_sub_cancel_left]
    | succ i => exact ih (t + g) i

theorem gaps_get_zero (u d n : Nat) (h : 0 < n) : (gaps u d n)[0]? = some d := by
  cases n with
  | zero => exact absurd h (Nat.lt_irrefl 0)
  | succ n => rfl

theorem gaps_get_succ (u d n i g : Nat) (h : (gaps u d n)[i]? = some g) (hi : i + 1 < n) :
    (gaps u d n)[i+1]? = some (min (2 * g) u) := by
  induction n generalizing d i with
  | zero => exact absurd hi (Nat.not_lt_zero _)
  | succ n ih =>
    cases i with
    | zero =>
      cases (Option.some.inj h : d = g)
      exact gaps_get_zero u _ n (Nat.lt_of_succ_lt_succ hi)
    | succ i => exact ih _ i h (Nat.lt_of_succ_lt_succ hi)

theorem step_recv_of_mem {maxlen : Nat} {known : List String} {id : String} (h : id ∈ known) :
    step maxlen known (.recv id) = (known, false) := if_pos h

theorem step_recv_of_not_mem {maxlen : Nat} {known : List String} {id : String} (h : id ∉ known) :
    step maxlen known (.recv id) = (push maxlen id known, true) := if_neg h

theorem take_one_push {maxlen : Nat} (id : String) (known : List String) (h : 0 < maxlen) :
    (push maxlen id known).take 1 = [id] := by
  rw [push, List.take_take, Nat.min_eq_left h]
  rfl

theorem mem_take_push (maxlen k : Nat) (id x : String) (l : List String)
    (h : id ∈ l.take k) (hk : k + 1 ≤ maxlen) : id ∈ (push maxlen x l).take (k + 1) := by
  rw [push, List.take_take, Nat.min_eq_left hk, List.take_succ_cons]
  exact List.mem_cons_of_mem _ h

/-- one event moves an id at most one place back -/
theorem step_keeps (maxlen k : Nat) (id : String) (known : List String) (e : Ev)
    (h : id ∈ known.take k) (hk : k + 1 ≤ maxlen) : id ∈ ((step maxlen known e).1).take (k + 1) := by
  cases e with
  | out x => exact mem_take_push maxlen k id x known h hk
  | recv x =>
    by_cases hx : x ∈ known
    · rw [step_recv_of_mem hx]
      exact List.take_subset_take_left known (Nat.le_succ k) h
    · rw [step_recv_of_not_mem hx]
      exact mem_take_push maxlen k id x known h hk

theorem run_keeps (maxlen : Nat) (id : String) (evs : List Ev) (known : List String) (k : Nat)
    (h : id ∈ known.take k) (hk : k + evs.length ≤ maxlen) : id ∈ run maxlen known evs := by
  induction evs generalizing known k with
  | nil => exact List.mem_of_mem_take h
  | cons e es ih =>
    rw [List.length_cons, Nat.add_comm es.length 1, ← Nat.add_assoc] at hk
    exact ih _ (k + 1) (step_keeps maxlen k id known e h (Nat.le_trans (Nat.le_add_right _ _) hk)) hk

theorem run_push_keeps (maxlen : Nat) (id : String) (known : List String) (evs : List Ev)
    (h : 1 + evs.length ≤ maxlen) : id ∈ run maxlen (push maxlen id known) evs := by
  refine run_keeps maxlen id evs _ 1 ?_ h
  rw [take_one_push id known (Nat.le_trans (Nat.le_add_right 1 _) h)]
  exact List.mem_singleton_self id

end Sdc.UdpRepeat
