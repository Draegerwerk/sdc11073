import SdcModel.Proofs.MdibLink
/-!
# `PFacts` ⇒ the 22 clauses of `reportsDescribe`
-/
namespace Sdc.Mdib
open Sdc.Consumer

theorem _root_.Sdc.Consumer.DescribeClauses.all_intro {c : DescribeClauses} (nonempty : c.nonempty = true) (vg : c.vg = true) (ids : c.ids = true)
    (wf : c.wf = true) (partsDistinct : c.partsDistinct = true) (created : c.created = true) (updated : c.updated = true)
    (deleted : c.deleted = true) (descrComplete : c.descrComplete = true) (descrRemoved : c.descrRemoved = true)
    (flat : c.flat = true) (stateSound : c.stateSound = true) (stateNewer : c.stateNewer = true)
    (stateComplete : c.stateComplete = true) (stateRemoved : c.stateRemoved = true)
    (deletedStatesGone : c.deletedStatesGone = true) (cstateSound : c.cstateSound = true) (cstateNewer : c.cstateNewer = true)
    (cstateComplete : c.cstateComplete = true) (cstateRemoved : c.cstateRemoved = true) (cstateStable : c.cstateStable = true)
    (ctxUpdateLists : c.ctxUpdateLists = true) : c.all = true := by
  simp only [DescribeClauses.all, nonempty, vg, ids, wf, partsDistinct, created, updated, deleted, descrComplete, descrRemoved, flat,
    stateSound, stateNewer, stateComplete, stateRemoved, deletedStatesGone, cstateSound, cstateNewer, cstateComplete, cstateRemoved,
    cstateStable, ctxUpdateLists, Bool.and_self]

/-- Each clause is a Boolean test over the tables `absCore t`, `absCore t'` (whose lookups are `findD` / `findS` / `findC` by
    unfolding) and over the parts and states of the reports, which are those of the result `r`. -/
theorem describe_of_facts {t t' : Mdib.Tables} {r : TxResult} (F : PFacts t t' r) (q : Nat) (i : Option Nat) :
    ReportsDescribe (absCore t q i) (absCore t' q i) (toReports t' ⟨t'.ver, q, i⟩ r) := by
  have K := toReports_carries t' ⟨t'.ver, q, i⟩ r
  have hne := K.ne_nil (F.some_.imp id (Or.imp id resParts_ne_nil))
  obtain ⟨hvg, hst, hct, hparts⟩ := K
  generalize toReports t' ⟨t'.ver, q, i⟩ r = rs at hne hvg hparts hst hct
  have hS : ∀ s ∈ stateReportStates rs ++ partStates (descrParts rs), s ∈ r.allS := fun s hs =>
    (List.mem_append.1 hs).elim (hst s).1 (fun h => (partStates_sub r).1 s (hparts ▸ h))
  have hC : ∀ c ∈ contextReportStates rs ++ partCStates (descrParts rs), c ∈ r.ctx := fun c hc =>
    (List.mem_append.1 hc).elim (hct c).1 (fun h => (partStates_sub r).2 c (hparts ▸ h))
  have hdel : Consumer.deletedHandles (descrParts rs) = r.descrDeleted.map (·.handle) := hparts ▸ resParts_deleted r
  apply DescribeClauses.all_intro
  case nonempty =>
    cases rs with
    | nil => exact absurd rfl hne
    | cons _ _ => rfl
  case vg => exact List.all_eq_true.2 fun x hx => beq_iff_eq.2 (hvg x hx)
  case ids =>
    exact Bool.and_eq_true_iff.2 ⟨Bool.and_eq_true_iff.2 ⟨decide_eq_true F.ver, beq_self_eq_true q⟩, beq_self_eq_true i⟩
  case wf =>
    have k {α : Type} {key : α → Nat} {l : List α} (h : (l.map key).Nodup) : keysNodup key l = true := decide_eq_true h
    show (_ && _ && _ && _ && _ && _) = true
    simp only [Bool.and_eq_true]
    exact ⟨⟨⟨⟨⟨k F.wf.dKeys, k F.wf.sKeys⟩, k F.wf.cKeys⟩, k F.wf'.dKeys⟩, k F.wf'.sKeys⟩, k F.wf'.cKeys⟩
  case partsDistinct =>
    refine decide_eq_true ?_
    rw [hparts, resParts_handles]; exact F.partsDistinct
  case created =>
    refine List.all_eq_true.2 fun p hp => ?_
    rcases mem_resParts.1 (hparts ▸ hp) with ⟨d, hd, rfl⟩ | ⟨d, hd, rfl⟩ | ⟨d, hd, rfl⟩
    · rfl
    · obtain ⟨a, b⟩ := F.created d hd
      show (_ || (Option.isNone (findD t d.handle) && findD t' d.handle == some d)) = true
      rw [a, b, beq_self_eq_true]; rfl
    · rfl
  case updated =>
    refine List.all_eq_true.2 fun p hp => ?_
    rcases mem_resParts.1 (hparts ▸ hp) with ⟨d, hd, rfl⟩ | ⟨d, hd, rfl⟩ | ⟨d, hd, rfl⟩
    · obtain ⟨old, a, b, c, e⟩ := F.updated d hd
      rw [flat_mod, flat_descr, lookD, lookD, a, e]
      simp only [b, c, bne_self_eq_false, beq_self_eq_true, Bool.false_or, Bool.and_self]
    · rfl
    · rfl
  case deleted =>
    refine List.all_eq_true.2 fun p hp => ?_
    rcases mem_resParts.1 (hparts ▸ hp) with ⟨d, hd, rfl⟩ | ⟨d, hd, rfl⟩ | ⟨d, hd, rfl⟩
    · rfl
    · rfl
    · obtain ⟨a, b⟩ := F.deleted d hd
      show (_ || (Option.isSome (findD t d.handle) && Option.isNone (findD t' d.handle))) = true
      rw [a, b]; rfl
  case descrComplete =>
    refine List.all_eq_true.2 fun d hd => Bool.or_eq_true_iff.2 ?_
    refine (F.descrComplete d hd).imp beq_iff_eq.2 fun a => List.any_eq_true.2 ?_
    rw [hparts]
    rcases List.mem_append.1 (List.map_append ▸ a) with a | a <;> obtain ⟨x, hx, e⟩ := List.mem_map.1 a
    · exact ⟨_, mem_resParts.2 (.inl ⟨x, hx, rfl⟩), Bool.and_eq_true_iff.2 ⟨rfl, beq_iff_eq.2 e⟩⟩
    · exact ⟨_, mem_resParts.2 (.inr (.inl ⟨x, hx, rfl⟩)), Bool.and_eq_true_iff.2 ⟨rfl, beq_iff_eq.2 e⟩⟩
  case descrRemoved =>
    refine List.all_eq_true.2 fun d hd => Bool.or_eq_true_iff.2 ?_
    exact (F.descrRemoved d hd).imp id fun a => List.contains_iff_mem.2 (hdel ▸ a)
  case flat =>
    show flatDeletes _ [] (descrParts rs) = true
    rw [hparts]; exact F.flat q i
  case stateSound => exact List.all_eq_true.2 fun s hs => beq_iff_eq.2 (F.stateSound s (hS s hs))
  case stateNewer =>
    refine List.all_eq_true.2 fun s hs => ?_
    split
    · next old ho => exact decide_eq_true (F.stateNewer s (hS s hs) old ho)
    · rfl
  case stateComplete =>
    refine List.all_eq_true.2 fun s hs => Bool.or_eq_true_iff.2 ?_
    exact (F.stateComplete s hs).imp beq_iff_eq.2 fun a => List.contains_iff_mem.2 ((hst s).2 a)
  case stateRemoved =>
    refine List.all_eq_true.2 fun s hs => Bool.or_eq_true_iff.2 ?_
    exact (F.stateRemoved s hs).imp id fun a => List.contains_iff_mem.2 (hdel ▸ a)
  case deletedStatesGone =>
    -- a deleted descriptor is not in `t'`, and by `WF t'` every state and context state refers to a descriptor of `t'`
    refine List.all_eq_true.2 fun h hh => ?_
    obtain ⟨d, hd, rfl⟩ := List.mem_map.1 (hdel ▸ hh)
    have hnot : d.handle ∉ t'.descrs.map (·.handle) := (find_none_iff (fun x : Descr => x.handle)).1 (F.deleted d hd).2
    refine Bool.and_eq_true_iff.2 ⟨?_, List.all_eq_true.2 fun c hc => bne_iff_ne.2 fun e => ?_⟩
    · cases hf : findS t' d.handle with
      | none => exact congrArg Option.isNone hf
      | some s =>
        obtain ⟨e, hs⟩ := findS_some hf
        obtain ⟨x, hx, e1, _⟩ := F.wf'.sRef s hs
        exact absurd (by rw [← e, ← e1]; exact List.mem_map_of_mem hx) hnot
    · obtain ⟨x, hx, e1, _⟩ := F.wf'.cRef c hc
      exact hnot (by rw [← e, ← e1]; exact List.mem_map_of_mem hx)
  case cstateSound => exact List.all_eq_true.2 fun c hc => beq_iff_eq.2 (F.cstateSound c (hC c hc))
  case cstateNewer =>
    refine List.all_eq_true.2 fun c hc => ?_
    split
    · next old ho => exact decide_eq_true (F.cstateNewer c (hC c hc) old ho)
    · rfl
  case cstateComplete =>
    refine List.all_eq_true.2 fun c hc => Bool.or_eq_true_iff.2 ?_
    exact (F.cstateComplete c hc).imp beq_iff_eq.2 fun a => List.contains_iff_mem.2 ((hct c).2 a)
  case cstateRemoved =>
    refine List.all_eq_true.2 fun c hc => Bool.or_eq_true_iff.2 (.inl (Bool.or_eq_true_iff.2 ?_))
    exact (F.cstateRemoved c hc).imp id fun a => List.contains_iff_mem.2 (hdel ▸ a)
  case cstateStable =>
    refine List.all_eq_true.2 fun c hc => ?_
    split
    · next old ho => exact beq_iff_eq.2 (F.cstateStable c hc old ho)
    · rfl
  case ctxUpdateLists =>
    refine List.all_eq_true.2 fun p hp => ?_
    rcases mem_resParts.1 (hparts ▸ hp) with ⟨d, hd, rfl⟩ | ⟨d, hd, rfl⟩ | ⟨d, hd, rfl⟩
    · by_cases hk : d.kind = .context
      · refine Bool.or_eq_true_iff.2 (.inr (List.all_eq_true.2 fun c hc => Bool.or_eq_true_iff.2 ?_))
        by_cases e : c.dh = d.handle
        · obtain ⟨x, hx, e1, e2⟩ := F.ctxUpdateLists d hd hk c (List.mem_append_right _ hc) e
          refine .inr (List.any_eq_true.2 ⟨x, List.mem_filter.2 ⟨hx, beq_iff_eq.2 e2⟩, ?_⟩)
          exact Bool.and_eq_true_iff.2 ⟨beq_iff_eq.2 e1, beq_iff_eq.2 e2⟩
        · exact .inl (bne_iff_ne.2 e)
      · refine Bool.or_eq_true_iff.2 (.inl ?_)
        rw [flat_mod, flat_descr, beq_self_eq_true, Bool.true_and, Bool.not_eq_true', beq_eq_false_iff_ne]
        exact hk
    · rfl
    · rfl

end Sdc.Mdib
