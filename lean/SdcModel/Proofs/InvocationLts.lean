import SdcModel.Invocation
/-!
The interleaving semantics of `generate_transaction_id` under its lock (any number of threads, any schedule): the
invariant `Good`, kept by every step of the locked program.
-/
namespace Sdc.Invocation.Lts

@[simp] theorem upd_same (f : Nat → Thr) (i : Nat) (t : Thr) : upd f i t i = t := if_pos rfl
@[simp] theorem upd_other (f : Nat → Thr) (i j : Nat) (t : Thr) (h : j ≠ i) : upd f i t j = f j := if_neg h

/-- between `acq` and `rel`: the program counter stands behind `acq` (1), `load` (2), `store` (3) or `ret` (4) -/
def inside (t : Thr) : Prop := 1 ≤ t.pc ∧ t.pc ≤ 4

/-- The invariant of the locked program. The k-th issued id is `c0 + 1 + k`; exactly the owner of the lock is `inside`;
    the counter equals `c0 +` the number of issued ids, except between `store` and `ret` of the owner (`p3`), where it is
    one ahead; a thread holds a result iff it stands in the list of issued ids, and it holds one once it passed `ret`. -/
structure Good (c0 : Nat) (c : Cfg) : Prop where
  ids : ∀ k e, c.issued[k]? = some e → e.2 = c0 + 1 + k
  pcs : ∀ j, (c.thr j).pc ≤ 5
  own : ∀ j, inside (c.thr j) ↔ c.owner = some j
  free : c.owner = none → c.counter = c0 + c.issued.length
  p1 : ∀ i, c.owner = some i → (c.thr i).pc = 1 → c.counter = c0 + c.issued.length
  p2 : ∀ i, c.owner = some i → (c.thr i).pc = 2 → c.counter = c0 + c.issued.length ∧ (c.thr i).tmp = c.counter
  p3 : ∀ i, c.owner = some i → (c.thr i).pc = 3 → c.counter = c0 + c.issued.length + 1
  p4 : ∀ i, c.owner = some i → (c.thr i).pc = 4 → c.counter = c0 + c.issued.length
  res : ∀ j a, (c.thr j).res = some a → (j, a) ∈ c.issued
  back : ∀ j a, (j, a) ∈ c.issued → (c.thr j).res ≠ none
  fin : ∀ j, 4 ≤ (c.thr j).pc → (c.thr j).res ≠ none

theorem good_init (c0 : Nat) : Good c0 (Cfg.init c0) := by
  refine ⟨fun k e h => ?_, fun _ => Nat.zero_le 5, fun _ => ⟨fun h => absurd h.1 (by decide : ¬1 ≤ 0), nofun⟩, fun _ => rfl,
    nofun, nofun, nofun, nofun, nofun, nofun, fun _ h => absurd h (by decide : ¬4 ≤ 0)⟩
  rw [show (Cfg.init c0).issued = [] from rfl, List.getElem?_nil] at h
  cases h

theorem forall_upd {Q : Nat → Thr → Prop} {f : Nat → Thr} {i : Nat} {t : Thr}
    (hf : ∀ j, j ≠ i → Q j (f j)) (ht : Q i t) : ∀ j, Q j (upd f i t j) := by
  intro j
  by_cases hj : j = i
  · subst hj; rw [upd_same]; exact ht
  · rw [upd_other _ _ _ _ hj]; exact hf j hj

/-- The frame of a step. Thread `i` moves to `t`, lock, counter and issued ids become `o'`, `n'`, `l'`; the lock was and is
    free or held by `i`, and either no id is returned or `n'` is. All clauses about other threads carry over, and what is
    left to show speaks of thread `i` alone. -/
theorem good_upd {c0 : Nat} {c : Cfg} {i : Nat} {t : Thr} (hg : Good c0 c) {o' : Option Nat} {n' : Nat}
    {l' : List (Nat × Nat)} (hoc : ∀ j, c.owner = some j → j = i) (ho' : ∀ j, o' = some j → j = i)
    (k : Nat) (hk : t.pc = k) (hpc : k ≤ 5) (hown : 1 ≤ k ∧ k ≤ 4 ↔ o' = some i)
    (hfree : o' = none → n' = c0 + l'.length)
    (hcnt : o' = some i → n' = c0 + l'.length + (if k = 3 then 1 else 0) ∧ (k = 2 → t.tmp = n'))
    (hlog : l' = c.issued ∧ t.res = (c.thr i).res ∧ (4 ≤ k → 4 ≤ (c.thr i).pc) ∨
      l' = c.issued ++ [(i, n')] ∧ t.res = some n' ∧ n' = c0 + 1 + c.issued.length) :
    Good c0 ⟨o', n', l', upd c.thr i t⟩ := by
  subst hk
  -- the counter clauses speak of the owner, that is of thread `i` at its new program counter
  have hp : ∀ m j, o' = some j → (upd c.thr i t j).pc = m →
      n' = c0 + l'.length + (if m = 3 then 1 else 0) ∧ (m = 2 → (upd c.thr i t j).tmp = n') := by
    intro m j hj hm; cases ho' j hj; rw [upd_same] at hm ⊢; exact hm ▸ hcnt hj
  refine ⟨?_, forall_upd (Q := fun _ t => t.pc ≤ 5) (fun j _ => hg.pcs j) hpc, ?_, hfree,
    fun j hj hm => (hp 1 j hj hm).1, fun j hj hm => ⟨(hp 2 j hj hm).1, (hp 2 j hj hm).2 rfl⟩,
    fun j hj hm => (hp 3 j hj hm).1, fun j hj hm => (hp 4 j hj hm).1, ?_, ?_, ?_⟩
  · intro k e hk
    rcases hlog with ⟨h, _⟩ | ⟨h, _, hn⟩
    · exact hg.ids k e (h ▸ hk)
    · subst h
      rcases Nat.lt_or_ge k c.issued.length with hlt | hge
      · exact hg.ids k e (List.getElem?_append_left hlt ▸ hk)
      · rw [List.getElem?_append_right hge, List.getElem?_singleton] at hk
        split at hk
        · cases hk; show n' = _; omega
        · cases hk
  · exact forall_upd (Q := fun j t => inside t ↔ o' = some j)
      (fun j hj => ⟨fun h => absurd (hoc j ((hg.own j).mp h)) hj, fun h => absurd (ho' j h) hj⟩) hown
  · refine forall_upd (Q := fun j t => ∀ a, t.res = some a → (j, a) ∈ l') (fun j _ a h => ?_) (fun a h => ?_)
    · rcases hlog with ⟨hl, _⟩ | ⟨hl, _⟩ <;> subst hl
      · exact hg.res j a h
      · exact List.mem_append_left _ (hg.res j a h)
    · rcases hlog with ⟨hl, hr, _⟩ | ⟨hl, hr, _⟩ <;> subst hl
      · exact hg.res i a (hr ▸ h)
      · cases hr ▸ h; exact List.mem_append_right _ (List.mem_singleton_self _)
  · intro j a
    refine forall_upd (Q := fun j t => (j, a) ∈ l' → t.res ≠ none) (fun j hj h => ?_) (fun h => ?_) j
    · rcases hlog with ⟨hl, _⟩ | ⟨hl, _⟩ <;> subst hl
      · exact hg.back j a h
      · rcases List.mem_append.mp h with h | h
        · exact hg.back j a h
        · cases List.mem_singleton.mp h; exact absurd rfl hj
    · rcases hlog with ⟨hl, hr, _⟩ | ⟨_, hr, _⟩
      · rw [hr]; exact hg.back i a (hl ▸ h)
      · rw [hr]; nofun
  · refine forall_upd (Q := fun _ t => 4 ≤ t.pc → t.res ≠ none) (fun j _ => hg.fin j) (fun h => ?_)
    rcases hlog with ⟨_, hr, hf⟩ | ⟨_, hr, _⟩
    · rw [hr]; exact hg.fin i (hf h)
    · rw [hr]; nofun

theorem good_step (c0 : Nat) (c c' : Cfg) (i : Nat) (hg : Good c0 c) (hs : stepFn lockedProg c i = some c') :
    Good c0 c' := by
  have hi : ∀ {o : Option Nat}, o = some i → ∀ j, o = some j → j = i := fun h j hj => (Option.some.inj (h ▸ hj)).symm
  have ho : ∀ k, (c.thr i).pc = k → 1 ≤ k → k ≤ 4 → c.owner = some i := fun k hk h1 h4 => (hg.own i).mp ⟨hk ▸ h1, hk ▸ h4⟩
  match hk : (c.thr i).pc with
  | 0 =>
    simp only [stepFn, hk, lockedProg, List.getElem?_cons_zero] at hs
    split at hs
    · rename_i hfree
      cases hs
      exact good_upd hg (fun j h => nomatch hfree ▸ h) (hi rfl) 1 rfl (by decide) ⟨fun _ => rfl, fun _ => by decide⟩ nofun
        (fun _ => ⟨hg.free hfree, nofun⟩) (.inl ⟨rfl, rfl, fun h => absurd h (by decide)⟩)
    · cases hs
  | 1 =>
    have ho := ho _ hk (by decide) (by decide)
    simp only [stepFn, hk, lockedProg, List.getElem?_cons_succ, List.getElem?_cons_zero] at hs
    cases hs
    exact good_upd hg (hi ho) (hi ho) 2 rfl (by decide) ⟨fun _ => ho, fun _ => by decide⟩ (fun h => nomatch ho ▸ h)
      (fun _ => ⟨hg.p1 i ho hk, fun _ => rfl⟩) (.inl ⟨rfl, rfl, fun h => absurd h (by decide)⟩)
  | 2 =>
    have ho := ho _ hk (by decide) (by decide)
    simp only [stepFn, hk, lockedProg, List.getElem?_cons_succ, List.getElem?_cons_zero] at hs
    cases hs
    obtain ⟨hn, htmp⟩ := hg.p2 i ho hk
    exact good_upd hg (hi ho) (hi ho) 3 rfl (by decide) ⟨fun _ => ho, fun _ => by decide⟩ (fun h => nomatch ho ▸ h)
      (fun _ => ⟨htmp ▸ hn ▸ rfl, nofun⟩) (.inl ⟨rfl, rfl, fun h => absurd h (by decide)⟩)
  | 3 =>
    have ho := ho _ hk (by decide) (by decide)
    simp only [stepFn, hk, lockedProg, List.getElem?_cons_succ, List.getElem?_cons_zero] at hs
    cases hs
    have hn := hg.p3 i ho hk
    exact good_upd hg (hi ho) (hi ho) 4 rfl (by decide) ⟨fun _ => ho, fun _ => by decide⟩ (fun h => nomatch ho ▸ h)
      (fun _ => ⟨by rw [hn, List.length_append]; rfl, nofun⟩) (.inr ⟨rfl, rfl, by omega⟩)
  | 4 =>
    have ho := ho _ hk (by decide) (by decide)
    simp only [stepFn, hk, lockedProg, List.getElem?_cons_succ, List.getElem?_cons_zero, ho, if_true] at hs
    cases hs
    exact good_upd hg (hi ho) nofun 5 rfl (by decide) ⟨fun h => absurd h (by decide), nofun⟩ (fun _ => hg.p4 i ho hk)
      nofun (.inl ⟨rfl, rfl, fun _ => hk ▸ Nat.le_refl 4⟩)
  | k + 5 => simp only [stepFn, hk, lockedProg, List.getElem?_cons_succ, List.getElem?_nil] at hs; cases hs

theorem good_reach (c0 : Nat) (c : Cfg) (hr : Reach lockedProg (Cfg.init c0) c) : Good c0 c := by
  induction hr with
  | refl => exact good_init c0
  | step _ hs ih => exact good_step c0 _ _ _ ih hs

theorem issued_of_res {c0 : Nat} {c : Cfg} (hg : Good c0 c) {i a : Nat} (h : (c.thr i).res = some a) :
    ∃ k, c.issued[k]? = some (i, a) ∧ a = c0 + 1 + k := by
  obtain ⟨k, hk⟩ := List.getElem?_of_mem (hg.res i a h)
  exact ⟨k, hk, hg.ids k _ hk⟩

theorem issued_increasing (c0 : Nat) (c : Cfg) (hg : Good c0 c) : (c.issued.map (·.2)).Pairwise (· < ·) := by
  rw [List.pairwise_iff_getElem]
  intro i j hi hj hij
  simp only [List.length_map] at hi hj
  simp only [List.getElem_map]
  have h1 := hg.ids i c.issued[i] (List.getElem?_eq_getElem hi)
  have h2 := hg.ids j c.issued[j] (List.getElem?_eq_getElem hj)
  omega

theorem issued_prefix_step (prog : List Act) (c c' : Cfg) (i : Nat) (hs : stepFn prog c i = some c') :
    c.issued <+: c'.issued := by
  unfold stepFn at hs
  simp only at hs
  split at hs
  · cases hs
  · split at hs
    · cases hs; exact List.prefix_refl _
    · cases hs
  · split at hs
    · cases hs; exact List.prefix_refl _
    · cases hs
  · cases hs; exact List.prefix_refl _
  · cases hs; exact List.prefix_refl _
  · cases hs; exact List.prefix_append _ _

theorem issued_prefix_reach (prog : List Act) (c c' : Cfg) (hr : Reach prog c c') : c.issued <+: c'.issued := by
  induction hr with
  | refl => exact List.prefix_refl _
  | step _ hs ih => exact ih.trans (issued_prefix_step _ _ _ _ hs)

theorem reach_trans (prog : List Act) (a b c : Cfg) (h1 : Reach prog a b) (h2 : Reach prog b c) : Reach prog a c := by
  induction h2 with
  | refl => exact h1
  | step _ hs ih => exact .step ih hs

theorem runSched_reach (prog : List Act) (c : Cfg) (sched : List Nat) : Reach prog c (runSched prog c sched) := by
  induction sched generalizing c with
  | nil => exact .refl
  | cons i is ih =>
    simp only [runSched]
    cases h : stepFn prog c i with
    | none => exact ih c
    | some c' => exact reach_trans prog c c' _ (.step .refl h) (ih c')

end Sdc.Invocation.Lts
