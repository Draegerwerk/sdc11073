import SdcModel.Fp64
import Mathlib.Tactic.Linarith
import Mathlib.Tactic.Positivity
import Mathlib.Tactic.NormNum
import Mathlib.Tactic.Ring
import Mathlib.Data.Rat.Defs
import Mathlib.Algebra.Order.Field.Power
/-!
# Error analysis of the executable binary64 model `SdcModel/Fp64.lean`
`rnRat_half_ulp`, `rnRat_err`: what `rnRat` computes (normalisation via `Nat.log2`, rounding via `roundNE`) is within half a
unit in the last place, hence within relative error `u = 2^-53`, of the exact quotient. `near_cases`, `roundNE_near`: an integer
closer than 1/2 to `N / D` is what `roundNE` returns. `abs_sub_le_of_rel`: the relative error of one operation on top of the
absolute error of its argument; every chain of float operations in `Proofs/ScalarsTs.lean`, `ScalarsDurFp.lean` goes through it.
-/
namespace Sdc.Fp64

/-- `|x|` as a rational number -/
def Fp.abs (x : Fp) : ℚ := (x.m : ℚ) * (2:ℚ) ^ x.e

theorem roundNE_cases (N D : Nat) :
    (roundNE N D = N / D ∧ 2 * (N % D) ≤ D) ∨ (roundNE N D = N / D + 1 ∧ D ≤ 2 * (N % D)) := by
  unfold roundNE
  by_cases h1 : 2 * (N % D) < D
  · rw [if_pos h1]; exact Or.inl ⟨rfl, Nat.le_of_lt h1⟩
  · rw [if_neg h1]
    by_cases h2 : D < 2 * (N % D)
    · rw [if_pos h2]; exact Or.inr ⟨rfl, Nat.le_of_lt h2⟩
    · rw [if_neg h2]
      by_cases h3 : N / D % 2 = 0
      · rw [if_pos h3]; exact Or.inl ⟨rfl, Nat.le_of_not_lt h2⟩
      · rw [if_neg h3]; exact Or.inr ⟨rfl, Nat.le_of_not_lt h1⟩

theorem roundNE_spec (N D : Nat) (hD : 0 < D) :
    2 * N ≤ 2 * (roundNE N D * D) + D ∧ 2 * (roundNE N D * D) ≤ 2 * N + D := by
  have hdm : N / D * D + N % D = N := Nat.div_add_mod' N D
  have hr : N % D < D := Nat.mod_lt N hD
  rcases roundNE_cases N D with ⟨e, h⟩ | ⟨e, h⟩
  · rw [e]; omega
  · rw [e, Nat.succ_mul (N / D) D]; omega

theorem near_cases (N D n : Nat) (hD : 0 < D) (h1 : 2 * N < 2 * (n * D) + D) (h2 : 2 * (n * D) < 2 * N + D) :
    (N / D = n ∧ 2 * (N % D) < D) ∨ (N / D + 1 = n ∧ D < 2 * (N % D)) := by
  have hdm : N / D * D + N % D = N := Nat.div_add_mod' N D
  have hr : N % D < D := Nat.mod_lt N hD
  -- an `n` two or more away from the quotient moves `n * D` by `2 * D` at least
  rcases Nat.lt_trichotomy n (N / D) with h | h | h
  · have := Nat.mul_le_mul_right D (Nat.succ_le_of_lt h)
    rw [Nat.succ_mul n D] at this
    omega
  · left; subst h; omega
  · rcases Nat.eq_or_lt_of_le (Nat.succ_le_of_lt h) with h' | h'
    · right; subst h'
      rw [Nat.succ_mul (N / D) D] at h1 h2
      omega
    · have := Nat.mul_le_mul_right D (Nat.succ_le_of_lt h')
      rw [Nat.succ_mul (N / D).succ D, Nat.succ_mul (N / D) D] at this
      omega

theorem roundNE_near (N D n : Nat) (hD : 0 < D) (h1 : 2 * N < 2 * (n * D) + D) (h2 : 2 * (n * D) < 2 * N + D) :
    roundNE N D = n := by
  unfold roundNE
  rcases near_cases N D n hD h1 h2 with ⟨hq, hr⟩ | ⟨hq, hr⟩
  · rw [if_pos hr, hq]
  · rw [if_neg (by omega), if_pos hr, hq]

theorem roundNE_mul (n D : Nat) (hD : 0 < D) : roundNE (n * D) D = n :=
  roundNE_near _ _ _ hD (by omega) (by omega)

theorem abs_sub_mul (m R : ℚ) {p : ℚ} (hp : 0 < p) : |m - R| * p = |m * p - R * p| := by
  rw [← sub_mul, abs_mul, abs_of_pos hp]

theorem abs_sub_div_mul (z N : ℚ) {D : ℚ} (hD : 0 < D) : |z - N / D| * D = |z * D - N| := by
  rw [abs_sub_mul _ _ hD, div_mul_cancel₀ _ hD.ne']

/-- distance from the quotient `N / D`, against 1/2, in units of `1 / (2 D)`: the form the integer statements have -/
theorem abs_sub_div_half (z N : ℚ) {D : ℚ} (hD : 0 < D) :
    (|z - N / D| ≤ 1 / 2 ↔ |2 * (z * D) - 2 * N| ≤ D) ∧ (|z - N / D| < 1 / 2 ↔ |2 * (z * D) - 2 * N| < D) := by
  have h2D : (0:ℚ) < 2 * D := mul_pos two_pos hD
  have e : |z - N / D| * (2 * D) = |2 * (z * D) - 2 * N| := by
    rw [abs_sub_mul _ _ h2D, mul_left_comm z 2 D, mul_left_comm (N / D) 2 D, div_mul_cancel₀ _ hD.ne']
  have eD : (1 / 2 : ℚ) * (2 * D) = D := by rw [← mul_assoc, one_div_mul_cancel two_ne_zero, one_mul]
  exact ⟨(mul_le_mul_iff_of_pos_right h2D).symm.trans (by rw [eD, e]),
    (mul_lt_mul_iff_of_pos_right h2D).symm.trans (by rw [eD, e])⟩

theorem roundNE_err (N D : Nat) (hD : 0 < D) : |(roundNE N D : ℚ) - (N : ℚ) / D| ≤ 1 / 2 := by
  obtain ⟨h1, h2⟩ := roundNE_spec N D hD
  have h1' : (2:ℚ) * N ≤ 2 * (roundNE N D * D) + D := by exact_mod_cast h1
  have h2' : (2:ℚ) * (roundNE N D * D) ≤ 2 * N + D := by exact_mod_cast h2
  exact (abs_sub_div_half _ _ (by exact_mod_cast hD)).1.mpr
    (abs_le.mpr ⟨neg_le_sub_iff_le_add.mpr h1', sub_le_iff_le_add'.mpr h2'⟩)

theorem near_of_abs_lt (N D n : Nat) (hD : 0 < D) (h : |(N : ℚ) / D - n| < 1 / 2) :
    2 * N < 2 * (n * D) + D ∧ 2 * (n * D) < 2 * N + D := by
  rw [abs_sub_comm, (abs_sub_div_half _ _ (by exact_mod_cast hD)).2, abs_lt] at h
  have h1 : (2:ℚ) * N < 2 * (n * D) + D := neg_lt_sub_iff_lt_add'.mp h.1
  have h2 : (2:ℚ) * (n * D) < 2 * N + D := sub_lt_iff_lt_add'.mp h.2
  exact ⟨by exact_mod_cast h1, by exact_mod_cast h2⟩

theorem two_zpow_pos (e : ℤ) : (0:ℚ) < (2:ℚ) ^ e := zpow_pos (by norm_num) e

theorem two_zpow_add (i j : ℤ) : (2:ℚ) ^ i * (2:ℚ) ^ j = (2:ℚ) ^ (i + j) := (zpow_add₀ (by norm_num) i j).symm

theorem scaleD_pos (b : Nat) (e : ℤ) (hb : 0 < b) : 0 < scaleD b e := by
  unfold scaleD; split
  · exact Nat.mul_pos hb (Nat.pow_pos (by norm_num))
  · exact hb

theorem two_zpow_of_nonneg {e : ℤ} (h : 0 ≤ e) : (2:ℚ) ^ e = 2 ^ e.toNat := by
  rw [← zpow_natCast, Int.toNat_of_nonneg h]

theorem two_zpow_of_nonpos {e : ℤ} (h : e ≤ 0) : (2:ℚ) ^ e = (2 ^ (-e).toNat)⁻¹ := by
  rw [← two_zpow_of_nonneg (neg_nonneg.mpr h), zpow_neg, inv_inv]

theorem scale_ratio (a b : Nat) (e : ℤ) :
    (scaleN a e : ℚ) / (scaleD b e : ℚ) = (a : ℚ) / b * (2:ℚ) ^ (-e) := by
  unfold scaleN scaleD
  split
  · rename_i h
    rw [zpow_neg, two_zpow_of_nonneg h]
    push_cast
    rw [div_mul_eq_div_div, div_eq_mul_inv ((a:ℚ) / b)]
  · rw [two_zpow_of_nonneg (by omega : 0 ≤ -e)]
    push_cast
    rw [mul_div_right_comm]

theorem scaleN_of_nonpos (a : Nat) (e : ℤ) (he : e ≤ 0) : scaleN a e = a * 2 ^ (-e).toNat := by
  unfold scaleN; split
  · rw [show e = 0 by omega]; simp
  · rfl

theorem scaleD_of_nonpos (b : Nat) (e : ℤ) (he : e ≤ 0) : scaleD b e = b := by
  unfold scaleD; split
  · rw [show e = 0 by omega]; simp
  · rfl

theorem log2_bounds (a : Nat) (ha : 0 < a) :
    (2:ℚ) ^ (a.log2 : ℤ) ≤ a ∧ (a:ℚ) < (2:ℚ) ^ ((a.log2 : ℤ) + 1) := by
  constructor
  · rw [zpow_natCast]; exact_mod_cast Nat.log2_self_le (by omega)
  · have : ((a.log2 : ℤ) + 1) = ((a.log2 + 1 : ℕ) : ℤ) := by push_cast; ring
    rw [this, zpow_natCast]; exact_mod_cast Nat.lt_log2_self

theorem quot_bracket {a b : ℚ} {la lb : ℤ} (hb : 0 < b) (la1 : (2:ℚ) ^ la ≤ a) (la2 : a < (2:ℚ) ^ (la + 1))
    (lb1 : (2:ℚ) ^ lb ≤ b) (lb2 : b < (2:ℚ) ^ (lb + 1)) :
    (2:ℚ) ^ (la - lb - 1) < a / b ∧ a / b < (2:ℚ) ^ (la + 1 - lb) := by
  constructor
  · rw [lt_div_iff₀ hb]
    calc (2:ℚ) ^ (la - lb - 1) * b < (2:ℚ) ^ (la - lb - 1) * (2:ℚ) ^ (lb + 1) :=
          mul_lt_mul_of_pos_left lb2 (two_zpow_pos _)
      _ = (2:ℚ) ^ la := by rw [two_zpow_add]; congr 1; ring
      _ ≤ a := la1
  · rw [div_lt_iff₀ hb]
    calc a < (2:ℚ) ^ (la + 1) := la2
      _ = (2:ℚ) ^ (la + 1 - lb) * (2:ℚ) ^ lb := by rw [two_zpow_add]; congr 1; ring
      _ ≤ (2:ℚ) ^ (la + 1 - lb) * b := mul_le_mul_of_nonneg_left lb1 (le_of_lt (two_zpow_pos _))

theorem expOf_spec (a b : Nat) (ha : 0 < a) (hb : 0 < b) :
    (2:ℚ) ^ 52 ≤ (a : ℚ) / b * (2:ℚ) ^ (-(expOf a b)) ∧ (a : ℚ) / b * (2:ℚ) ^ (-(expOf a b)) < (2:ℚ) ^ 53 := by
  obtain ⟨la1, la2⟩ := log2_bounds a ha
  obtain ⟨lb1, lb2⟩ := log2_bounds b hb
  have hbq : (0:ℚ) < b := by exact_mod_cast hb
  obtain ⟨lo, hi⟩ := quot_bracket hbq la1 la2 lb1 lb2
  -- with the first guess `e0` the scaled quotient is in `(2^52, 2^54)`; the test of `expOf` halves it if need be
  generalize hq : (a : ℚ) / b = q at lo hi ⊢
  unfold expOf
  dsimp only
  generalize he0 : (a.log2 : ℤ) - b.log2 - 53 = e0
  have lo0 : (2:ℚ) ^ 52 < q * (2:ℚ) ^ (-e0) := by
    have := mul_lt_mul_of_pos_right lo (two_zpow_pos (-e0))
    rwa [two_zpow_add, show (a.log2 : ℤ) - b.log2 - 1 + -e0 = (52 : ℕ) by omega, zpow_natCast] at this
  have hi0 : q * (2:ℚ) ^ (-e0) < (2:ℚ) ^ 54 := by
    have := mul_lt_mul_of_pos_right hi (two_zpow_pos (-e0))
    rwa [two_zpow_add, show (a.log2 : ℤ) + 1 - b.log2 + -e0 = (54 : ℕ) by omega, zpow_natCast] at this
  have htest : scaleN a e0 < 2 ^ 53 * scaleD b e0 ↔ q * (2:ℚ) ^ (-e0) < (2:ℚ) ^ 53 := by
    have hD0 : (0:ℚ) < (scaleD b e0 : ℚ) := by exact_mod_cast scaleD_pos b e0 hb
    rw [← hq, ← scale_ratio, div_lt_iff₀ hD0]
    exact_mod_cast Iff.rfl
  split
  · rename_i h
    exact ⟨le_of_lt lo0, htest.mp h⟩
  · rename_i h
    have hge : (2:ℚ) ^ 53 ≤ q * (2:ℚ) ^ (-e0) := not_lt.mp (fun h' => h (htest.mpr h'))
    have hstep : q * (2:ℚ) ^ (-(e0 + 1)) = q * (2:ℚ) ^ (-e0) / 2 := by
      rw [neg_add, ← two_zpow_add, zpow_neg_one, ← mul_assoc, div_eq_mul_inv]
    rw [hstep]
    constructor
    · rw [le_div_iff₀ two_pos]; exact le_trans (by norm_num) hge
    · rw [div_lt_iff₀ two_pos]; exact lt_of_lt_of_le hi0 (by norm_num)

/-- unit round-off of binary64 -/
def u : ℚ := 1 / 2 ^ 53

theorem u_pos : 0 < u := by unfold u; positivity

theorem two_pow_mul_u : (2:ℚ) ^ 53 * u = 1 := by unfold u; norm_num

theorem two_pow_52_mul_u : (2:ℚ) ^ 52 * u = 1 / 2 := by unfold u; norm_num

theorem u_lt : u < 1 / 10 ^ 15 := by unfold u; norm_num

theorem rnRat_zero (neg : Bool) (b : Nat) : (rnRat neg 0 b).abs = 0 := by
  simp [rnRat, Fp.abs]

/-- moving a mantissa `2^53` to `2^52` with the next exponent does not change the value -/
theorem rnRat_abs (neg : Bool) (a b : Nat) (ha : a ≠ 0) :
    (rnRat neg a b).abs =
      (roundNE (scaleN a (expOf a b)) (scaleD b (expOf a b)) : ℚ) * (2:ℚ) ^ (expOf a b) := by
  unfold rnRat Fp.abs rnPos
  rw [if_neg ha]
  dsimp only
  split
  · rename_i h
    rw [h, ← two_zpow_add]; push_cast; ring
  · rfl

theorem scale_back (q : ℚ) (e : ℤ) : q * (2:ℚ) ^ (-e) * (2:ℚ) ^ e = q := by
  rw [mul_assoc, two_zpow_add, neg_add_cancel, zpow_zero, mul_one]

theorem rnRat_half_ulp (neg : Bool) (a b : Nat) (ha : a ≠ 0) (hb : 0 < b) :
    |(rnRat neg a b).abs - (a : ℚ) / b| ≤ 1 / 2 * (2:ℚ) ^ (expOf a b) := by
  have hp := two_zpow_pos (expOf a b)
  have hr := roundNE_err (scaleN a (expOf a b)) (scaleD b (expOf a b)) (scaleD_pos b _ hb)
  rw [scale_ratio] at hr
  have := mul_le_mul_of_nonneg_right hr hp.le
  rwa [abs_sub_mul _ _ hp, scale_back, ← rnRat_abs neg a b ha] at this

theorem rnRat_err (neg : Bool) (a b : Nat) (hb : 0 < b) :
    |(rnRat neg a b).abs - (a : ℚ) / b| ≤ (a : ℚ) / b * u := by
  rcases Nat.eq_zero_or_pos a with rfl | ha
  · rw [rnRat_zero]; simp
  · obtain ⟨lo, -⟩ := expOf_spec a b ha hb
    have hp := two_zpow_pos (expOf a b)
    -- the scaled quotient is `2^52` at least, and `2^52 u = 1/2`
    calc |(rnRat neg a b).abs - (a : ℚ) / b| ≤ 1 / 2 * (2:ℚ) ^ (expOf a b) := rnRat_half_ulp neg a b ha.ne' hb
      _ = 2 ^ 52 * (2:ℚ) ^ (expOf a b) * u := by rw [mul_right_comm, two_pow_52_mul_u]
      _ ≤ (a : ℚ) / b * (2:ℚ) ^ (-(expOf a b)) * (2:ℚ) ^ (expOf a b) * u :=
          mul_le_mul_of_nonneg_right (mul_le_mul_of_nonneg_right lo hp.le) u_pos.le
      _ = (a : ℚ) / b * u := by rw [scale_back]

theorem rnRat_neg (neg : Bool) (a b : Nat) : (rnRat neg a b).neg = neg := by
  unfold rnRat; split <;> rfl

theorem rnRat_exact (neg : Bool) (a b q : Nat) (hb : 0 < b) (hq : a = q * b) (hlt : q < 2 ^ 53) :
    (rnRat neg a b).abs = q := by
  rcases Nat.eq_zero_or_pos q with rfl | hq0
  · rw [hq, Nat.zero_mul, rnRat_zero, Nat.cast_zero]
  · have ha : 0 < a := hq ▸ Nat.mul_pos hq0 hb
    obtain ⟨lo, -⟩ := expOf_spec a b ha hb
    rw [rnRat_abs neg a b ha.ne']
    generalize expOf a b = e at lo ⊢
    have hab : (a:ℚ) / b = q := by
      have hbq : (b:ℚ) ≠ 0 := by exact_mod_cast hb.ne'
      rw [hq, Nat.cast_mul, mul_div_cancel_right₀ _ hbq]
    rw [hab] at lo
    -- `q < 2^53` is scaled up, not down, to reach `[2^52, 2^53)`: `e ≤ 0`, so the scaled quotient is an integer
    have hle : e ≤ 0 := by
      by_contra hgt
      have hz : (2:ℚ) ^ (-e) ≤ (2:ℚ) ^ (-1:ℤ) := zpow_le_zpow_right₀ one_le_two (by omega)
      have hq53 : (q:ℚ) < 2 ^ 53 := by exact_mod_cast hlt
      have := mul_lt_mul hq53 hz (two_zpow_pos _) (by positivity)
      exact absurd (lo.trans_lt this) (by norm_num)
    have hr : roundNE (scaleN a e) (scaleD b e) = q * 2 ^ (-e).toNat := by
      rw [scaleN_of_nonpos a e hle, scaleD_of_nonpos b e hle, hq, Nat.mul_right_comm]
      exact roundNE_mul _ b hb
    rw [hr, two_zpow_of_nonpos hle]
    push_cast
    rw [mul_inv_cancel_right₀ (pow_ne_zero _ two_ne_zero)]

theorem valD_pos (x : Fp) : 0 < valD x := by
  unfold valD; split
  · exact Nat.one_pos
  · exact Nat.pow_pos (by norm_num)

theorem val_ratio (x : Fp) : (valN x : ℚ) / (valD x : ℚ) = x.abs := by
  unfold valN valD Fp.abs
  split
  · rename_i h
    rw [two_zpow_of_nonneg h]
    push_cast
    rw [div_one]
  · rw [two_zpow_of_nonpos (by omega : x.e ≤ 0)]
    push_cast
    rw [div_eq_mul_inv]

theorem rnMul_err (x : Fp) (k : Nat) : |(rnMul x k).abs - x.abs * k| ≤ x.abs * k * u := by
  have h := rnRat_err x.neg (valN x * k) (valD x) (valD_pos x)
  rwa [Nat.cast_mul, mul_div_right_comm, val_ratio] at h

theorem near_cases_fp (x : Fp) (n : Nat) (h : |x.abs - n| < 1 / 2) :
    (valN x / valD x = n ∧ 2 * (valN x % valD x) < valD x) ∨
      (valN x / valD x + 1 = n ∧ valD x < 2 * (valN x % valD x)) := by
  rw [← val_ratio] at h
  obtain ⟨h1, h2⟩ := near_of_abs_lt _ _ n (valD_pos x) h
  exact near_cases _ _ n (valD_pos x) h1 h2

theorem roundHalfEven_near (x : Fp) (n : Nat) (h : |x.abs - n| < 1 / 2) : roundHalfEven x = n := by
  rw [← val_ratio] at h
  obtain ⟨h1, h2⟩ := near_of_abs_lt _ _ n (valD_pos x) h
  exact roundNE_near _ _ n (valD_pos x) h1 h2

theorem roundHalfEven_err (x : Fp) : |(roundHalfEven x : ℚ) - x.abs| ≤ 1 / 2 := by
  rw [← val_ratio]; exact roundNE_err _ _ (valD_pos x)

theorem floorNat_eq (x : Fp) (s : Nat) (h1 : (s : ℚ) ≤ x.abs) (h2 : x.abs < s + 1) : floorNat x = s := by
  have hD : (0:ℚ) < valD x := by exact_mod_cast valD_pos x
  rw [← val_ratio] at h1 h2
  rw [le_div_iff₀ hD] at h1
  rw [div_lt_iff₀ hD] at h2
  exact Nat.div_eq_of_lt_le (by exact_mod_cast h1) (by exact_mod_cast h2)

theorem frac_ratio (x : Fp) : ((valN x % valD x : ℕ) : ℚ) / valD x = x.abs - (floorNat x : ℚ) := by
  have hD : (0:ℚ) < valD x := by exact_mod_cast valD_pos x
  have hdm : ((valN x / valD x : ℕ) : ℚ) * valD x + (valN x % valD x : ℕ) = valN x := by
    exact_mod_cast Nat.div_add_mod' (valN x) (valD x)
  rw [← val_ratio, floorNat, eq_sub_iff_add_eq', ← hdm, add_div, mul_div_cancel_right₀ _ hD.ne']

theorem abs_sub_le_of_rel {y φ f δ ε : ℚ} (hε : 0 ≤ ε) (h1 : |y - φ| ≤ φ * ε) (h2 : |φ - f| ≤ δ) :
    |y - f| ≤ (f + δ) * ε + δ := by
  have hφ : φ ≤ f + δ := sub_le_iff_le_add'.mp (abs_le.mp h2).2
  calc |y - f| ≤ |y - φ| + |φ - f| := abs_sub_le y φ f
    _ ≤ (f + δ) * ε + δ := add_le_add (h1.trans (mul_le_mul_of_nonneg_right hφ hε)) h2

end Sdc.Fp64
