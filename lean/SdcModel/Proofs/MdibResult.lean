import SdcModel.Proofs.MdibHist
import SdcModel.Reports
/-!
# the TransactionResult of a state / context transaction is exactly what the commit wrote

A commit writes a dict of items into a keyed table (`Written`); the result lists the new records of the items. That the
listed records are the ones in the table, each once, and that every changed key has an item, is proved once for such a
table and used for the single states, the context states and (in `MdibResultFinal`) the state dicts of a descriptor commit.
-/
namespace Sdc.Mdib

/-- `f'` is the lookup `f` overwritten by `items` (new record `none`: removed); a new record carries the key of its item -/
structure Written {ι α : Type} (new : ι → Option α) (key : α → Handle) (items : List (Handle × ι)) (f f' : Handle → Option α) :
    Prop where
  keys : (items.map (·.1)).Nodup
  key : ∀ p ∈ items, ∀ n ∈ new p.2, key n = p.1
  hit : ∀ h it, dictGet items h = some it → f' h = new it
  miss : ∀ h, dictGet items h = none → f' h = f h

section
variable {ι α : Type} {new : ι → Option α} {key : α → Handle} {items : List (Handle × ι)} {f f' : Handle → Option α}

theorem Written.truthful (w : Written new key items f f') {p : Handle × ι} (hp : p ∈ items) {n : α} (hn : new p.2 = some n) :
    f' (key n) = some n := by
  rw [w.key p hp n hn, w.hit p.1 p.2 (dictGet_of_mem_nodup w.keys hp), hn]

theorem Written.complete (w : Written new key items f f') {k : Handle} (hne : f' k ≠ f k) :
    ∃ it, (k, it) ∈ items ∧ f' k = new it := by
  cases hg : dictGet items k with
  | none => exact absurd (w.miss k hg) hne
  | some it => exact ⟨it, dictGet_some_mem hg, w.hit k it hg⟩

theorem filterMap_keys_sublist {g : Handle × ι → Option α} :
    ∀ (l : List (Handle × ι)), (∀ p ∈ l, ∀ n ∈ g p, key n = p.1) → ((l.filterMap g).map key).Sublist (l.map (·.1)) := by
  intro l
  induction l with
  | nil => intro _; exact .slnil
  | cons p rest ih =>
    intro hl
    have ih' := ih (fun q hq => hl q (List.mem_cons_of_mem _ hq))
    rw [List.filterMap_cons]
    cases hn : g p with
    | none => exact ih'.cons _
    | some n => rw [List.map_cons, List.map_cons, hl p (List.mem_cons_self ..) n hn]; exact ih'.cons_cons _

theorem Written.nodup (w : Written new key items f f') : ((items.filterMap (fun p => new p.2)).map key).Nodup :=
  (filterMap_keys_sublist items w.key).nodup w.keys

end

theorem SItemsOK.written {t : Tables} {items : List (Handle × SItem)} (hi : SItemsOK t items) :
    Written (fun it => some it.new) (·.dh) items (findS t) (findS (applySItems t items).1) :=
  ⟨hi.keys, fun p hp _ e => Option.some.inj e ▸ hi.dh p hp, fun h it e => by rw [applySItems_findS hi, e],
    fun h e => by rw [applySItems_findS hi, e]⟩

theorem CItemsOK.written {t : Tables} {items : List (Handle × CItem)} (hi : CItemsOK true t items) :
    Written CItem.new (·.h) items (findC t) (findC (applyCItems t items).1) :=
  ⟨hi.keys, hi.h, fun h it e => by rw [applyCItems_findC hi, e], fun h e => by rw [applyCItems_findC hi, e]⟩

theorem allS_putStates_split (r : TxResult) {k : Kind} (hk : k ≠ .context) (l : List SState) :
    ∃ a b, r.allS = a ++ b ∧ (r.putStates k l).allS = a ++ l ++ b := by
  cases k with
  | context => exact absurd rfl hk
  | metric => exact ⟨r.metric, r.alert ++ r.comp ++ r.op ++ r.rt, by simp only [TxResult.allS, List.append_assoc],
      by simp only [TxResult.putStates, TxResult.allS, List.append_assoc]⟩
  | alert => exact ⟨r.metric ++ r.alert, r.comp ++ r.op ++ r.rt, by simp only [TxResult.allS, List.append_assoc],
      by simp only [TxResult.putStates, TxResult.allS, List.append_assoc]⟩
  | component => exact ⟨r.metric ++ r.alert ++ r.comp, r.op ++ r.rt, by simp only [TxResult.allS, List.append_assoc],
      by simp only [TxResult.putStates, TxResult.allS, List.append_assoc]⟩
  | operational => exact ⟨r.metric ++ r.alert ++ r.comp ++ r.op, r.rt, rfl,
      by simp only [TxResult.putStates, TxResult.allS, List.append_assoc]⟩
  | rt => exact ⟨r.allS, [], (List.append_nil _).symm,
      by simp only [TxResult.putStates, TxResult.allS, List.append_assoc, List.append_nil]⟩

theorem mem_allS_putStates (r : TxResult) {k : Kind} (hk : k ≠ .context) (l : List SState) (x : SState) :
    x ∈ (r.putStates k l).allS ↔ x ∈ r.allS ∨ x ∈ l := by
  obtain ⟨a, b, e1, e2⟩ := allS_putStates_split r hk l
  rw [e1, e2, List.mem_append, List.mem_append, List.mem_append]
  exact ⟨fun h => h.elim (fun h => h.elim (fun h => .inl (.inl h)) .inr) (fun h => .inl (.inr h)),
    fun h => h.elim (fun h => h.elim (fun h => .inl (.inl h)) .inr) (fun h => .inl (.inr h))⟩

theorem allS_putStates (k : Kind) (l : List SState) (hk : k ≠ .context) : (({} : TxResult).putStates k l).allS = l := by
  obtain ⟨a, b, e1, e2⟩ := allS_putStates_split {} hk l
  obtain ⟨rfl, rfl⟩ := List.append_eq_nil_iff.1 e1.symm
  rw [e2, List.nil_append, List.append_nil]

theorem putStates_frame (r : TxResult) (k : Kind) (l : List SState) :
    (r.putStates k l).descrCreated = r.descrCreated ∧ (r.putStates k l).descrUpdated = r.descrUpdated ∧
    (r.putStates k l).descrDeleted = r.descrDeleted ∧ (r.putStates k l).ctx = r.ctx := by
  cases k <;> exact ⟨rfl, rfl, rfl, rfl⟩

theorem applySItems_ups {t : Tables} {items : List (Handle × SItem)} (hi : SItemsOK t items) :
    (applySItems t items).2.1 = items.map (·.2.new) := by
  induction items generalizing t with
  | nil => rfl
  | cons p rest ih => obtain ⟨h, it⟩ := p; rw [applySItems_cons hi, ih hi.tail]; rfl

theorem runS_committed {t t' : Tables} {r : TxResult} (hw : WF t) {s : SScript} (h : runS t s = (t', r, .committed)) :
    ∃ items : List (Handle × SItem), SItemsOK { t with ver := t.ver + 1 } items ∧
      t' = (applySItems { t with ver := t.ver + 1 } items).1 ∧ r = ({} : TxResult).putStates s.kind (items.map (·.2.new)) ∧
      items ≠ [] := by
  rcases runS_spec t s with ⟨o, e, ho⟩ | ⟨tx, htx, _, hne, ⟨_, e⟩ | ⟨_, e⟩⟩
  · rw [h] at e; cases e; rcases ho with ho | ho | ho <;> cases ho
  · have hi := (sCalls_ok hw htx).of_ver (t.ver + 1)
    have hkind : tx.kind = s.kind :=
      runCalls_inv (fun tx : STx => tx.kind = s.kind) (fun _ _ _ hp hc => (sCall_reach hc).1.trans hp) _ _ _ _ rfl htx
    rw [h, commitS_of_ne hne, applySItems_ups hi, hkind] at e
    exact ⟨tx.items, hi, (Prod.mk.inj e).1, (Prod.mk.inj (Prod.mk.inj e).2).1, fun e' => by rw [e'] at hne; cases hne⟩
  · rw [h] at e; cases (Prod.mk.inj (Prod.mk.inj e).2).2

theorem result_truthful_S {t t' : Tables} {r : TxResult} (hw : WF t) {s : SScript} (h : runS t s = (t', r, .committed)) :
    (∀ x ∈ r.allS, findS t' x.dh = some x) ∧ (r.allS.map (·.dh)).Nodup := by
  obtain ⟨items, hi, rfl, rfl, _⟩ := runS_committed hw h
  by_cases hk : s.kind = .context
  · rw [hk]; exact ⟨fun _ hx => (nomatch hx), List.nodup_nil⟩
  · rw [allS_putStates _ _ hk, ← List.filterMap_eq_map']
    refine ⟨fun x hx => by obtain ⟨p, hp, e⟩ := List.mem_filterMap.1 hx; exact hi.written.truthful hp e, hi.written.nodup⟩

theorem result_complete_S {t t' : Tables} {r : TxResult} (hw : WF t) {s : SScript} (hk : s.kind ≠ .context)
    (h : runS t s = (t', r, .committed)) (k : Handle) (hne : findS t' k ≠ findS t k) : ∃ x ∈ r.allS, x.dh = k := by
  obtain ⟨items, hi, rfl, rfl, _⟩ := runS_committed hw h
  obtain ⟨it, hm, _⟩ := hi.written.complete hne
  rw [allS_putStates _ _ hk]
  exact ⟨it.new, List.mem_map.2 ⟨_, hm, rfl⟩, hi.dh _ hm⟩

theorem applyCItems_ups {t : Tables} {items : List (Handle × CItem)} (hi : CItemsOK true t items) :
    (applyCItems t items).2.1 = items.filterMap (·.2.new) := by
  induction items generalizing t with
  | nil => rfl
  | cons p rest ih =>
    obtain ⟨h, it⟩ := p
    rw [applyCItems_cons (hi.h (h, it) (List.mem_cons_self ..)) (hi.exact (h, it) (List.mem_cons_self ..)), ih hi.tail,
      List.filterMap_cons]
    cases it.new <;> rfl

theorem runC_committed {t t' : Tables} {r : TxResult} (hw : WF t) {s : CScript} (hf : FreshUuids t s)
    (h : runC t s = (t', r, .committed)) :
    ∃ tx, runCalls (cCall t) s.catchErrors { newVer := t.ver + 1 } s.calls = .ok tx ∧
      CItemsOK true { t with ver := t.ver + 1 } tx.items ∧
      t' = (applyCItems { t with ver := t.ver + 1 } tx.items).1 ∧ r = { ctx := tx.items.filterMap (·.2.new) } ∧ tx.items ≠ [] := by
  rcases runC_spec t s with ⟨o, e, ho⟩ | ⟨tx, htx, _, hne, ⟨_, e⟩ | ⟨_, e⟩⟩
  · rw [h] at e; cases e; rcases ho with ho | ho | ho <;> cases ho
  · have hi := (cCalls_ok hw hf htx).of_ver (t.ver + 1)
    rw [h, commitC_of_ne hne, applyCItems_ups hi] at e
    exact ⟨tx, htx, hi, (Prod.mk.inj e).1, (Prod.mk.inj (Prod.mk.inj e).2).1, fun e' => by rw [e'] at hne; cases hne⟩
  · rw [h] at e; cases (Prod.mk.inj (Prod.mk.inj e).2).2

theorem result_truthful_C {t t' : Tables} {r : TxResult} (hw : WF t) {s : CScript} (hf : FreshUuids t s)
    (h : runC t s = (t', r, .committed)) :
    (∀ x ∈ r.ctx, findC t' x.h = some x) ∧ (r.ctx.map (·.h)).Nodup ∧ r.allS = [] := by
  obtain ⟨tx, _, hi, rfl, rfl, _⟩ := runC_committed hw hf h
  exact ⟨fun x hx => by obtain ⟨p, hp, e⟩ := List.mem_filterMap.1 hx; exact hi.written.truthful hp e, hi.written.nodup, rfl⟩

theorem result_complete_C {t t' : Tables} {r : TxResult} (hw : WF t) {s : CScript} (hf : FreshUuids t s)
    (h : runC t s = (t', r, .committed)) (k : Handle) (hne : findC t' k ≠ findC t k) :
    (∃ x ∈ r.ctx, x.h = k) ∨ findC t' k = none := by
  obtain ⟨tx, _, hi, rfl, rfl, _⟩ := runC_committed hw hf h
  obtain ⟨it, hm, e⟩ := hi.written.complete hne
  cases hn : it.new with
  | none => exact .inr (e.trans hn)
  | some n => exact .inl ⟨n, List.mem_filterMap.2 ⟨_, hm, hn⟩, hi.h _ hm n hn⟩

end Sdc.Mdib
