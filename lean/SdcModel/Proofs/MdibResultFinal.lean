import SdcModel.Proofs.MdibResult
/-!
# the TransactionResult of a committed descriptor transaction is true of the tables and complete

First the state lists through `commitStates` (`RB`: between two state dicts), then the whole commit (`DResultOK`).
-/
namespace Sdc.Mdib

theorem applyKinds_cons {c : DCommit} {k : Kind} (ks : List Kind) (h : (applyKind c k).2 = none) :
    applyKinds c (k :: ks) = applyKinds (applyKind c k).1 ks := by
  rw [applyKinds]
  generalize applyKind c k = q at h
  obtain ⟨c1, e⟩ := q
  obtain rfl : e = none := h
  rfl

theorem commitStates_eq {c : DCommit} (h1 : (applyKinds c [.alert, .metric]).2 = none)
    (h2 : (applyCtx (applyKinds c [.alert, .metric]).1).2 = none) :
    commitStates c = applyKinds (applyCtx (applyKinds c [.alert, .metric]).1).1 [.component, .operational, .rt] := by
  rw [commitStates]
  generalize applyKinds c [.alert, .metric] = q1 at h1 h2
  obtain ⟨c1, e1⟩ := q1
  obtain rfl : e1 = none := h1
  dsimp only at h2 ⊢
  generalize applyCtx c1 = q2 at h2
  obtain ⟨c2, e2⟩ := q2
  obtain rfl : e2 = none := h2
  rfl

theorem dictGet_filter_none {α : Type} {l : List (Handle × α)} (hn : (l.map (·.1)).Nodup) {p : Handle × α} (hp : p ∈ l)
    {q : Handle × α → Bool} (hq : q p = false) : dictGet (l.filter q) p.1 = none := by
  apply dictGet_none_iff.2
  intro hm
  obtain ⟨p', hp', e⟩ := List.mem_map.1 hm
  obtain ⟨h1, h2⟩ := List.mem_filter.1 hp'
  have a := dictGet_of_mem_nodup hn (show (p'.1, p'.2) ∈ l from h1)
  rw [e, dictGet_of_mem_nodup hn (show (p.1, p.2) ∈ l from hp)] at a
  have : p' = p := Prod.ext e (Option.some.inj a).symm
  rw [this, hq] at h2; cases h2

theorem SB.items_ok {L : List (Handle × SItem)} {done : List Kind} {C : Handle → Prop} {T : Tables} (hb : SB L done C T)
    {k : Kind} (hk : k ∉ done) : SItemsOK T (L.filter (fun p => p.2.new.kind == k)) := by
  have hfil : L.filter (fun p => p.2.new.kind == k) =
      (L.filter (fun p => !done.contains p.2.new.kind)).filter (fun p => p.2.new.kind == k) := by
    rw [List.filter_filter]
    apply List.filter_congr
    intro p _
    by_cases e : p.2.new.kind = k
    · subst e; simp [hk]
    · simp [e]
  rw [hfil]; exact hb.ok.sub List.filter_sublist

/-- the state lists of the result between two state dicts (companion of `SB`): the items of the kinds in `done` are in the tables
    and are exactly what is reported -/
structure RB (L : List (Handle × SItem)) (done : List Kind) (c : DCommit) : Prop where
  written : ∀ p ∈ L, p.2.new.kind ∈ done → findS c.t p.1 = some p.2.new
  resS : ∀ x, x ∈ c.res.allS ↔ ∃ p ∈ L, p.2.new.kind ∈ done ∧ x = p.2.new

/-- what the state part leaves alone in the result -/
def ResFrame (r' r : TxResult) : Prop :=
  r'.descrCreated = r.descrCreated ∧ r'.descrUpdated = r.descrUpdated ∧ r'.descrDeleted = r.descrDeleted

theorem ResFrame.trans {a b c : TxResult} (h1 : ResFrame a b) (h2 : ResFrame b c) : ResFrame a c :=
  ⟨h1.1.trans h2.1, h1.2.1.trans h2.2.1, h1.2.2.trans h2.2.2⟩

theorem RB.kind {L : List (Handle × SItem)} {done : List Kind} {c : DCommit} (hr : RB L done c) (hL : c.tx.sItems = L)
    (hkeys : (L.map (·.1)).Nodup) {k : Kind} (hkc : k ≠ .context)
    (hik : SItemsOK c.t (L.filter (fun p => p.2.new.kind == k))) :
    RB L (k :: done) (applyKind c k).1 ∧ ResFrame (applyKind c k).1.res c.res ∧ (applyKind c k).1.res.ctx = c.res.ctx := by
  have w := hik.written
  have fr := putStates_frame c.res k (applySItems c.t (L.filter (fun p => p.2.new.kind == k))).2.1
  simp only [applyKind, hL]
  refine ⟨⟨?_, ?_⟩, ⟨fr.1, fr.2.1, fr.2.2.1⟩, fr.2.2.2⟩
  · intro p hp hk
    by_cases e : p.2.new.kind = k
    · rw [← w.key p (List.mem_filter.2 ⟨hp, beq_iff_eq.2 e⟩) _ rfl]
      exact w.truthful (List.mem_filter.2 ⟨hp, beq_iff_eq.2 e⟩) rfl
    · rw [w.miss p.1 (dictGet_filter_none hkeys hp (beq_eq_false_iff_ne.2 e))]
      exact hr.written p hp ((List.mem_cons.1 hk).resolve_left e)
  · intro x
    rw [mem_allS_putStates _ hkc, applySItems_ups hik, hr.resS]
    constructor
    · rintro (⟨p, hp, hk, rfl⟩ | hx)
      · exact ⟨p, hp, List.mem_cons_of_mem _ hk, rfl⟩
      · obtain ⟨p, hp, rfl⟩ := List.mem_map.1 hx
        obtain ⟨hp1, hp2⟩ := List.mem_filter.1 hp
        exact ⟨p, hp1, by rw [beq_iff_eq.1 hp2]; exact List.mem_cons_self .., rfl⟩
    · rintro ⟨p, hp, hk, rfl⟩
      rcases List.mem_cons.1 hk with hk | hk
      · exact .inr (List.mem_map.2 ⟨p, List.mem_filter.2 ⟨hp, beq_iff_eq.2 hk⟩, rfl⟩)
      · exact .inl ⟨p, hp, hk, rfl⟩

theorem kindsAllR {L : List (Handle × SItem)} {C : Handle → Prop} (hkeys : (L.map (·.1)).Nodup) :
    ∀ (ks : List Kind) (done : List Kind) (c : DCommit), SB L done C c.t → RB L done c → c.tx.sItems = L → ks.Nodup →
      (∀ k ∈ ks, k ∉ done ∧ k ≠ .context) →
      RB L (ks.reverse ++ done) (applyKinds c ks).1 ∧ ResFrame (applyKinds c ks).1.res c.res ∧
        (applyKinds c ks).1.res.ctx = c.res.ctx := by
  intro ks
  induction ks with
  | nil => intro done c _ hr _ _ _; exact ⟨hr, ⟨rfl, rfl, rfl⟩, rfl⟩
  | cons k ks ih =>
    intro done c hb hr hL hn hd
    obtain ⟨hk1, hk2⟩ := hd k (List.mem_cons_self ..)
    obtain ⟨e1, b1, t1, _⟩ := hb.kind hL hk1
    obtain ⟨r1, fr1, fc1⟩ := hr.kind hL hkeys hk2 (hb.items_ok hk1)
    obtain ⟨r2, fr2, fc2⟩ := ih (k :: done) (applyKind c k).1 b1 r1 (by rw [t1]; exact hL) (List.nodup_cons.1 hn).2 (by
      intro k' hk'
      refine ⟨fun hx => ?_, (hd k' (List.mem_cons_of_mem _ hk')).2⟩
      rcases List.mem_cons.1 hx with rfl | hx
      · exact (List.nodup_cons.1 hn).1 hk'
      · exact (hd k' (List.mem_cons_of_mem _ hk')).1 hx)
    rw [applyKinds_cons ks e1, List.reverse_cons, List.append_assoc]
    exact ⟨r2, fr2.trans fr1, fc2.trans fc1⟩

variable {t₀ : Tables} {tx₀ : DTx} {del : List Handle}

theorem commitStates_res {c : DCommit} (h : CInv t₀ tx₀ del [] (pendUpd []) c.t c.tx) (hS : c.res.allS = []) (hC : c.res.ctx = []) :
    (∀ x ∈ (commitStates c).1.res.allS, findS (commitStates c).1.t x.dh = some x) ∧
    (∀ p ∈ c.tx.sItems, p.2.new ∈ (commitStates c).1.res.allS) ∧
    (∀ x ∈ (commitStates c).1.res.ctx, findC (commitStates c).1.t x.h = some x) ∧
    (∀ p ∈ c.tx.cItems, ∀ n ∈ p.2.new, n ∈ (commitStates c).1.res.ctx) ∧
    ResFrame (commitStates c).1.res c.res ∧
    (∀ x ∈ (commitStates c).1.res.allS, ∃ p ∈ c.tx.sItems, x = p.2.new) ∧
    (∀ x ∈ (commitStates c).1.res.ctx, ∃ p ∈ c.tx.cItems, p.2.new = some x) := by
  obtain ⟨hb0, hci, hck⟩ := h.stateFacts
  have hr0 : RB c.tx.sItems [] c :=
    ⟨fun _ _ hk => (nomatch hk), fun x => by rw [hS]; exact ⟨fun hx => (nomatch hx), fun ⟨_, _, hk, _⟩ => (nomatch hk)⟩⟩
  obtain ⟨e1, b1, t1, f1⟩ := SB.kindsAll [.alert, .metric] [] c hb0 rfl (by decide) (by simp)
  obtain ⟨r1, fr1, fc1⟩ := kindsAllR h.siKeys [.alert, .metric] [] c hb0 hr0 rfl (by decide) (by decide)
  have hci1 : CItemsOK true (applyKinds c [.alert, .metric]).1.t (applyKinds c [.alert, .metric]).1.tx.cItems := by
    rw [t1]; exact hci.congr f1.fr.2.1 f1.fr.2.2.2 f1.fr.1
  obtain ⟨e2, b2, t2, f2⟩ := b1.ctx hci1 (by rw [t1, f1.fr.1]; exact hck)
  rw [commitStates_eq e1 e2]
  generalize (applyKinds c [.alert, .metric]).1 = c1 at b1 t1 f1 r1 fr1 fc1 hci1 b2 t2 f2 ⊢
  have w : Written CItem.new (·.h) c1.tx.cItems (findC c1.t) (findC (applyCtx c1).1.t) := hci1.written
  have hctx : (applyCtx c1).1.res.ctx = c1.tx.cItems.filterMap (·.2.new) := by
    show c1.res.ctx ++ (applyCItems c1.t c1.tx.cItems).2.1 = _
    rw [fc1, hC, List.nil_append, applyCItems_ups hci1]
  have r2 : RB c.tx.sItems [.metric, .alert] (applyCtx c1).1 :=
    ⟨fun p hp hk => (findS_congr f2.fr.2.1 p.1).trans (r1.written p hp hk), r1.resS⟩
  have fr2 : ResFrame (applyCtx c1).1.res c1.res := ⟨rfl, rfl, rfl⟩
  generalize (applyCtx c1).1 = c2 at b2 t2 f2 w hctx r2 fr2 ⊢
  obtain ⟨_, _, _, f3⟩ := SB.kindsAll [.component, .operational, .rt] _ c2 b2 (by rw [t2, t1]) (by decide) (by decide)
  obtain ⟨r3, fr3, fc3⟩ := kindsAllR h.siKeys [.component, .operational, .rt] _ c2 b2 r2 (by rw [t2, t1]) (by decide) (by decide)
  generalize (applyKinds c2 [.component, .operational, .rt]).1 = c3 at f3 r3 fr3 fc3 ⊢
  refine ⟨?_, ?_, ?_, ?_, fr3.trans (fr2.trans fr1), fun x hx => ?_, fun x hx => ?_⟩
  · intro x hx
    obtain ⟨p, hp, hk, rfl⟩ := (r3.resS x).1 hx
    rw [(h.si p hp).dh]; exact r3.written p hp hk
  · intro p hp
    refine (r3.resS _).2 ⟨p, hp, ?_, rfl⟩
    have hk := (h.si p hp).kind
    cases hkd : p.2.new.kind <;> first | exact absurd hkd hk | decide
  · intro x hx
    rw [fc3, hctx] at hx
    obtain ⟨p, hp, e⟩ := List.mem_filterMap.1 hx
    rw [findC_congr f3.fr.2.1]; exact w.truthful hp e
  · intro p hp n hn
    rw [fc3, hctx]
    exact List.mem_filterMap.2 ⟨p, t1 ▸ hp, hn⟩
  · obtain ⟨p, hp, _, e⟩ := (r3.resS x).1 hx; exact ⟨p, hp, e⟩
  · rw [fc3, hctx] at hx
    obtain ⟨p, hp, e⟩ := List.mem_filterMap.1 hx
    exact ⟨p, t1 ▸ hp, e⟩

/-- what a committed descriptor transaction reports, against the tables before (`t`) and after (`t'`) -/
structure DResultOK (t t' : Tables) (r : TxResult) : Prop where
  created : ∀ d ∈ r.descrCreated, findD t' d.handle = some d
  updated : ∀ d ∈ r.descrUpdated, ∃ d', findD t' d.handle = some d' ∧ d'.ver = d.ver ∧ d'.body = d.body ∧ d'.kind = d.kind
  deleted : ∀ d ∈ r.descrDeleted, findD t' d.handle = none
  states : ∀ x ∈ r.allS, findS t' x.dh = some x
  ctx : ∀ x ∈ r.ctx, findC t' x.h = some x
  completeD : ∀ h, findD t' h ≠ findD t h → h ∈ (r.descrCreated ++ r.descrUpdated ++ r.descrDeleted).map (·.handle)
  completeS : ∀ h, findS t' h ≠ findS t h → (∃ x ∈ r.allS, x.dh = h) ∨ findS t' h = none
  completeC : ∀ h, findC t' h ≠ findC t h → (∃ x ∈ r.ctx, x.h = h) ∨ findC t' h = none

theorem commitD_result {t : Tables} (hw : WF t) (hk : KOK t) {tx : DTx} (hi : DTxOK t tx) (hne : tx.descr.isEmpty = false)
    (hnf : (commitD t tx).2.2 = none) : DResultOK t (commitD t tx).1 (commitD t tx).2.1 := by
  obtain ⟨c, hc, _, _, h1, r1, _⟩ := commitD_inv hw hk hi hne hnf
  rw [hc]
  obtain ⟨_, _, _, R⟩ := commitStates_ok h1
  obtain ⟨a, b, c', d, e, f⟩ := r1.sl
  obtain ⟨s1, s2, s3, s4, fr, _, _⟩ := commitStates_res h1 (by rw [TxResult.allS, a, b, c', d, e]; rfl) f
  have S := h1.seen
  have fD : ∀ k, findD (commitStates c).1.t k = findD c.t k := findD_congr R.descrs
  refine ⟨?_, ?_, ?_, s1, s3, ?_, ?_, ?_⟩
  · intro d hd; rw [fr.1] at hd; rw [fD]; exact (r1.cre d hd).1
  · intro d hd; rw [fr.2.1] at hd; rw [fD]; exact (r1.upd d hd).1
  · intro d hd; rw [fr.2.2] at hd; rw [fD]; exact (r1.delr d hd).1
  · intro k hk'; rw [fD] at hk'; rw [fr.1, fr.2.1, fr.2.2]; exact r1.comp k hk'
  · intro k hk'
    cases hb : findS (commitStates c).1.t k with
    | none => exact .inr rfl
    | some b =>
      left
      rcases R.srcS k b hb with hcb | hkey
      · exact absurd (hb.trans (S.sSame k b hcb).symm) hk'
      · obtain ⟨p, hp, rfl⟩ := List.mem_map.1 hkey
        exact ⟨p.2.new, s2 p hp, (h1.si p hp).dh⟩
  · intro k hk'
    cases hb : findC (commitStates c).1.t k with
    | none => exact .inr rfl
    | some b =>
      left
      rcases R.srcC k b hb with hcb | ⟨p, hp, rfl, hn⟩
      · exact absurd (hb.trans (S.cSame k b hcb).symm) hk'
      · exact ⟨b, s4 p hp b hn, ((h1.ci p hp).new b hn).1⟩

theorem runD_committed {t t' : Tables} {r : TxResult} {s : DScript} (h : runD t s = (t', r, .committed)) :
    ∃ tx, runCalls (dCall t) s.catchErrors { newVer := t.ver + 1 } s.calls = .ok tx ∧ tx.descr.isEmpty = false ∧
      (commitD t tx).2.2 = none ∧ t' = (commitD t tx).1 ∧ r = (commitD t tx).2.1 := by
  rcases runD_spec t s with ⟨o, e, ho⟩ | ⟨tx, htx, _, hne, ⟨hnf, e⟩ | ⟨_, e⟩⟩
  · rw [h] at e; cases e; rcases ho with ho | ho | ho <;> cases ho
  · rw [h] at e; exact ⟨tx, htx, hne, hnf, (Prod.mk.inj e).1, (Prod.mk.inj (Prod.mk.inj e).2).1⟩
  · rw [h] at e; cases (Prod.mk.inj (Prod.mk.inj e).2).2

theorem runD_result {t t' : Tables} {r : TxResult} (hw : WF t) (hk : KOK t) (s : DScript) (hs : DScriptOK t s)
    (h : runD t s = (t', r, .committed)) : DResultOK t t' r := by
  obtain ⟨tx, htx, hne, hnf, rfl, rfl⟩ := runD_committed h
  exact commitD_result hw hk (dCalls_ok hw hk hs htx) hne hnf

end Sdc.Mdib
