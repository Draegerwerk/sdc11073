import SdcModel.Scalars
import SdcModel.Proofs.Fp64
import SdcModel.Proofs.ScalarsDur
/-! the float steps of `parse_duration` are exact for seconds below 60 with at most six fraction digits:
    `float('s.f')` (correctly rounded), `modf`, `frac * 1e6` (correctly rounded), round-half-even of the leftover -/
namespace Sdc.Scalars
open Sdc.Fp64

/-- the whole part of the float `frac * 1e6` and the half-even rounding of its leftover add up to the integer `f` it is close to -/
theorem timedeltaUs_of_near (h m s f : Nat) (x : Fp) (hs : floorNat x = s)
    (hy : |(fracMul x usPerSec).abs - f| < 1 / 2) :
    timedeltaUs h m x =
      if (h * 3600 * usPerSec + m * 60 * usPerSec + (s * usPerSec + f)) / usPerDay ≤ maxDays
      then .ok (h * 3600 * usPerSec + m * 60 * usPerSec + (s * usPerSec + f)) else .error .overflow := by
  unfold timedeltaUs floatUsParts
  dsimp only
  rw [hs]
  generalize fracMul x usPerSec = y at hy ⊢
  unfold floorNat
  rcases near_cases_fp y f hy with ⟨c1, c2⟩ | ⟨c1, c2⟩
  · rw [if_pos c2, c1]
  · rw [if_neg (Nat.lt_asymm c2), if_pos c2, Nat.add_assoc _ _ 1, Nat.add_assoc _ _ 1, c1]

theorem timedeltaUs_exact (h m s f : Nat) (x : Fp) (hf : f < 1000000)
    (hx : |x.abs - ((s : ℚ) + (f : ℚ) / 1000000)| ≤ 60 * u) (hfl1 : (s : ℚ) ≤ x.abs) (hfl2 : x.abs < s + 1) :
    timedeltaUs h m x =
      if (h * 3600 * usPerSec + m * 60 * usPerSec + (s * usPerSec + f)) / usPerDay ≤ maxDays
      then .ok (h * 3600 * usPerSec + m * 60 * usPerSec + (s * usPerSec + f)) else .error .overflow := by
  have hfloor := floorNat_eq x s hfl1 hfl2
  apply timedeltaUs_of_near h m s f x hfloor
  -- `frac * 1e6` is the rounding of `φ = (x - s) * 10^6` …
  have hy : |(fracMul x usPerSec).abs - (x.abs - s) * 1000000| ≤ (x.abs - s) * 1000000 * u := by
    have := rnRat_err false ((valN x % valD x) * usPerSec) (valD x) (valD_pos x)
    rwa [Nat.cast_mul, mul_div_right_comm, frac_ratio, hfloor] at this
  generalize (fracMul x usPerSec).abs = Y at hy ⊢
  generalize x.abs = X at hx hy
  -- … which is within `6·10^7 u` of `f`
  have hM : (0:ℚ) < 1000000 := by norm_num
  have hφ : |(X - s) * 1000000 - f| ≤ 60 * u * 1000000 := by
    have := mul_le_mul_of_nonneg_right hx hM.le
    rwa [← sub_sub, abs_sub_div_mul _ _ hM] at this
  have hfu : f * u ≤ 1000000 * u := mul_le_mul_of_nonneg_right (by exact_mod_cast hf.le) u_pos.le
  have huu : u * u ≤ 1 / 10 ^ 15 * u := mul_le_mul_of_nonneg_right u_lt.le u_pos.le
  calc |Y - f| ≤ (f + 60 * u * 1000000) * u + 60 * u * 1000000 := abs_sub_le_of_rel u_pos.le hy hφ
    _ < 1 / 2 := by linarith only [hfu, huu, u_lt]

theorem fracDigits_val (f : Nat) (hf : f < 1000000) :
    ∃ j, (fracDigits f).length + j = 6 ∧ digitsVal (fracDigits f) * 10 ^ j = f := by
  obtain ⟨j, hj⟩ := rstrip0_spec (zfill6 (natStr f))
  refine ⟨j, ?_, ?_⟩
  · have := zfill6_length f hf
    rwa [hj, List.length_append, List.length_replicate] at this
  · have := digitsVal_zfill6 f
    rw [hj, digitsVal_append_zeros] at this
    exact this

theorem floatStepExact : FloatStepExact := by
  intro h m s f hs hf
  by_cases hf0 : f = 0
  · -- `float('s.0')` is the integer `s` itself
    subst hf0
    rw [if_pos rfl]
    have hx : (floatOfDecimal (natStr s) [48]).abs = s := by
      apply rnRat_exact false _ _ s (by norm_num)
      · rw [digitsVal_append, digitsVal_natStr]; rfl
      · omega
    refine timedeltaUs_exact h m s 0 _ hf ?_ hx.ge ?_
    · rw [hx, Nat.cast_zero, zero_div, add_zero, sub_self, abs_zero]
      exact (mul_pos (by norm_num) u_pos).le
    · rw [hx]; exact lt_add_one _
  · -- `float('s.f')` is within `60 u` of `s + f / 10^6`, too close to leave `[s, s + 1)` when `1 ≤ f ≤ 999999`
    rw [if_neg hf0]
    obtain ⟨j, hlen, hval⟩ := fracDigits_val f hf
    have herr := rnRat_err false (digitsVal (natStr s ++ fracDigits f)) (10 ^ (fracDigits f).length)
      (Nat.pow_pos (by norm_num))
    have hq : ((digitsVal (natStr s ++ fracDigits f) : ℕ) : ℚ) / ((10 ^ (fracDigits f).length : ℕ) : ℚ)
        = (s : ℚ) + (f : ℚ) / 1000000 := by
      have hL : ((10:ℚ) ^ (fracDigits f).length) ≠ 0 := by positivity
      have hJ : ((10:ℚ) ^ j) ≠ 0 := by positivity
      have hfv : (f : ℚ) = (digitsVal (fracDigits f) : ℚ) * 10 ^ j := by exact_mod_cast hval.symm
      rw [digitsVal_append, digitsVal_natStr, hfv]
      push_cast
      rw [add_div, mul_div_cancel_right₀ _ hL, ← mul_div_mul_right _ _ hJ, ← pow_add, hlen,
        show (10:ℚ) ^ 6 = 1000000 by norm_num]
    rw [hq] at herr
    have hf1 : (1:ℚ) ≤ f := by exact_mod_cast Nat.pos_of_ne_zero hf0
    have hf2 : (f:ℚ) ≤ 999999 := by exact_mod_cast Nat.le_of_lt_succ hf
    have hs2 : (s:ℚ) ≤ 59 := by exact_mod_cast Nat.le_of_lt_succ hs
    have herr' : |(floatOfDecimal (natStr s) (fracDigits f)).abs - ((s : ℚ) + (f : ℚ) / 1000000)| ≤ 60 * u :=
      herr.trans (mul_le_mul_of_nonneg_right (by linarith only [hs2, hf2]) u_pos.le)
    obtain ⟨a1, a2⟩ := abs_le.mp herr'
    apply timedeltaUs_exact h m s f _ hf herr'
    · linarith only [a1, hf1, u_lt]
    · linarith only [a2, hf2, u_lt]

end Sdc.Scalars
