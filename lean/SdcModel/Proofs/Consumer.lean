import SdcModel.Consumer
import SdcModel.Proofs.KeyedList
/-!
# The consumer model (`SdcModel/Consumer.lean`), layer by layer — core Lean only

Keyed lists (what `lookupBy` sees of `replaceBy`, `removeBy`, `++`, `filter`), the gated write `gatedPut` by its three
effects, then the handlers: each of `applyPart`, `applyReport`, `step` gets its equations per case once, and every
fold (`gatedPutAll`, `applyParts`, `applyAll`, `run`) its induction principle, so that an invariant is proved for one
step and carried along.
-/
namespace Sdc.Consumer
open Sdc.Mdib

theorem hasNewUsableVersion_iff (old new : Nat) : hasNewUsableVersion old new = true ↔ old < new := by
  simp only [hasNewUsableVersion, beq_iff_eq]
  split
  · simp; omega
  · split <;> simp <;> omega

/-! ### keyed lists: `lookupBy`, `replaceBy`, `removeBy` are `find?`, `map`, `filter` of `Proofs/KeyedList.lean` -/
section Keyed
variable {α : Type} (key : α → Nat)

@[simp] theorem lookupBy_nil (k : Nat) : lookupBy key ([] : List α) k = none := rfl

theorem lookupBy_cons (y : α) (ys : List α) (k : Nat) :
    lookupBy key (y :: ys) k = if key y = k then some y else lookupBy key ys k :=
  Keyed.find_cons key y ys k

@[simp] theorem replaceBy_nil (x : α) : replaceBy key ([] : List α) x = [] := rfl

theorem lookupBy_some_mem {l : List α} {k : Nat} {a : α} (h : lookupBy key l k = some a) : a ∈ l ∧ key a = k :=
  (Keyed.find_some_key key h).symm

theorem lookupBy_none_iff {l : List α} {k : Nat} : lookupBy key l k = none ↔ k ∉ l.map key :=
  Keyed.find_none_iff key

theorem lookupBy_isSome_iff {l : List α} {k : Nat} : (lookupBy key l k).isSome = true ↔ k ∈ l.map key :=
  Keyed.find_isSome_iff key

theorem lookupBy_of_mem_nodup {l : List α} {a : α} (hn : (l.map key).Nodup) (ha : a ∈ l) :
    lookupBy key l (key a) = some a :=
  Keyed.find_of_mem_nodup key hn ha

theorem lookupBy_append (l m : List α) (k : Nat) :
    lookupBy key (l ++ m) k = (lookupBy key l k).or (lookupBy key m k) :=
  List.find?_append

theorem map_key_replaceBy (l : List α) (x : α) : (replaceBy key l x).map key = l.map key :=
  Keyed.map_key_replace key l x

theorem mem_replaceBy {l : List α} {x y : α} (h : y ∈ replaceBy key l x) : y ∈ l ∨ y = x :=
  Keyed.mem_replace key h

theorem lookupBy_replaceBy (l : List α) (x : α) (k : Nat) :
    lookupBy key (replaceBy key l x) k =
      if k = key x then (if (lookupBy key l k).isSome then some x else none) else lookupBy key l k :=
  Keyed.find_replace key l x k

theorem replaceBy_self_of_lookup {l : List α} {x : α} (hn : (l.map key).Nodup) (h : lookupBy key l (key x) = some x) :
    replaceBy key l x = l :=
  Keyed.replace_self key hn h

theorem nodup_filter_keys {l : List α} (p : α → Bool) (hn : (l.map key).Nodup) : ((l.filter p).map key).Nodup :=
  Keyed.nodup_filter_key key hn p

theorem nodup_replaceBy {l : List α} (x : α) (hn : (l.map key).Nodup) : ((replaceBy key l x).map key).Nodup := by
  rw [map_key_replaceBy]; exact hn

theorem nodup_append_new {l : List α} {x : α} (hn : (l.map key).Nodup) (h : lookupBy key l (key x) = none) :
    ((l ++ [x]).map key).Nodup :=
  Keyed.nodup_append_single key hn ((lookupBy_none_iff key).mp h)

theorem lookupBy_filter (l : List α) (p : α → Bool) (k : Nat) :
    lookupBy key (l.filter p) k = (l.filter p).find? (fun y => key y == k) := rfl

theorem lookupBy_filter_nodup {l : List α} (f : α → Bool) (hn : (l.map key).Nodup) (k : Nat) :
    lookupBy key (l.filter f) k = (lookupBy key l k).filter f :=
  Keyed.find_filter_nodup key f hn k

theorem lookupBy_filter_of_nodup {l : List α} {p : α → Bool} {k : Nat} {a : α} (hn : (l.map key).Nodup)
    (h : lookupBy key (l.filter p) k = some a) : lookupBy key l k = some a := by
  rw [lookupBy_filter_nodup key p hn, Option.filter_eq_some_iff] at h
  exact h.1

theorem lookupBy_removeBy (l : List α) (p : Nat → Bool) (k : Nat) :
    lookupBy key (removeBy key l p) k = if p k then none else lookupBy key l k :=
  Keyed.find_filter_key key l p k

theorem lookupBy_removeBy_single (l : List α) (h k : Nat) :
    lookupBy key (removeBy key l [h].contains) k = if k = h then none else lookupBy key l k := by
  rw [lookupBy_removeBy]; simp only [List.contains_cons, List.contains_nil, Bool.or_false, beq_iff_eq]

end Keyed

section Gated
variable {α : Type} (key sv : α → Nat)

theorem gatedPut_cases (am : Bool) (l : List α) (x : α) :
    (∃ old, lookupBy key l (key x) = some old ∧ sv old < sv x ∧
      gatedPut key sv am l x = (replaceBy key l x, true)) ∨
    (lookupBy key l (key x) = none ∧ am = true ∧ gatedPut key sv am l x = (l ++ [x], true)) ∨
    ((Covered key sv l x ∨ (lookupBy key l (key x) = none ∧ am = false)) ∧ gatedPut key sv am l x = (l, false)) := by
  unfold gatedPut
  cases ho : lookupBy key l (key x) with
  | none =>
    cases am
    · exact Or.inr (Or.inr ⟨Or.inr ⟨rfl, rfl⟩, rfl⟩)
    · exact Or.inr (Or.inl ⟨rfl, rfl, rfl⟩)
  | some old =>
    by_cases hlt : sv old < sv x
    · exact Or.inl ⟨old, rfl, hlt, by simp only [(hasNewUsableVersion_iff _ _).2 hlt, if_true]⟩
    · have : hasNewUsableVersion (sv old) (sv x) = false := by
        rw [Bool.eq_false_iff, Ne, hasNewUsableVersion_iff]; exact hlt
      exact Or.inr (Or.inr ⟨Or.inl ⟨old, ho, Nat.le_of_not_lt hlt⟩, by simp only [this, Bool.false_eq_true, if_false]⟩)

theorem gatedPut_unchanged {am : Bool} {l : List α} {x : α}
    (h : Covered key sv l x ∨ (lookupBy key l (key x) = none ∧ am = false)) : gatedPut key sv am l x = (l, false) := by
  rcases gatedPut_cases key sv am l x with ⟨old, ho, hlt, _⟩ | ⟨hn, ham, _⟩ | ⟨_, e⟩
  · rcases h with ⟨a, ha, hle⟩ | ⟨hn, _⟩
    · rw [ha] at ho; cases ho; omega
    · rw [hn] at ho; cases ho
  · rcases h with ⟨a, ha, _⟩ | ⟨_, ham'⟩
    · rw [ha] at hn; cases hn
    · rw [ham] at ham'; cases ham'
  · exact e

theorem gatedPut_mem {am : Bool} {l : List α} {x y : α} (h : y ∈ (gatedPut key sv am l x).1) : y ∈ l ∨ y = x := by
  rcases gatedPut_cases key sv am l x with ⟨_, _, _, e⟩ | ⟨_, _, e⟩ | ⟨_, e⟩ <;> rw [e] at h
  · exact mem_replaceBy key h
  · simpa using h
  · exact Or.inl h

theorem gatedPut_nodup {am : Bool} {l : List α} (x : α) (hn : (l.map key).Nodup) :
    (((gatedPut key sv am l x).1).map key).Nodup := by
  rcases gatedPut_cases key sv am l x with ⟨_, _, _, e⟩ | ⟨h, _, e⟩ | ⟨_, e⟩ <;> rw [e]
  · exact nodup_replaceBy key x hn
  · exact nodup_append_new key hn h
  · exact hn

theorem lookupBy_gatedPut (am : Bool) (l : List α) (x : α) (k : Nat) :
    lookupBy key (gatedPut key sv am l x).1 k =
      if k = key x then
        (match lookupBy key l k with
         | some old => if sv old < sv x then some x else some old
         | none => if am then some x else none)
      else lookupBy key l k := by
  by_cases hk : k = key x
  · subst hk
    rw [if_pos rfl]
    rcases gatedPut_cases key sv am l x with ⟨old, ho, hlt, e⟩ | ⟨hn, ham, e⟩ | ⟨⟨a, ha, hle⟩ | ⟨hn, ham⟩, e⟩ <;> rw [e]
    · rw [lookupBy_replaceBy, if_pos rfl, ho]; simp only [Option.isSome_some, if_true, hlt]
    · rw [lookupBy_append, hn, lookupBy_cons, if_pos rfl, ham]; rfl
    · rw [ha]; simp only [Nat.not_lt.mpr hle, if_false]
    · rw [hn, ham]; rfl
  · rw [if_neg hk]
    rcases gatedPut_cases key sv am l x with ⟨_, _, _, e⟩ | ⟨_, _, e⟩ | ⟨_, e⟩ <;> rw [e]
    · rw [lookupBy_replaceBy, if_neg hk]
    · rw [lookupBy_append, lookupBy_cons, if_neg (Ne.symm hk), lookupBy_nil, Option.or_none]

theorem gatedPut_lookup_mono {am : Bool} {l : List α} (x : α) {k : Nat} {a : α} (h : lookupBy key l k = some a) :
    ∃ b, lookupBy key (gatedPut key sv am l x).1 k = some b ∧ sv a ≤ sv b := by
  rcases gatedPut_cases key sv am l x with ⟨old, ho, hlt, e⟩ | ⟨_, _, e⟩ | ⟨_, e⟩ <;> rw [e]
  · rw [lookupBy_replaceBy]
    by_cases hk : k = key x
    · subst hk
      rw [ho] at h; cases h
      exact ⟨x, by rw [if_pos rfl, ho]; rfl, Nat.le_of_lt hlt⟩
    · exact ⟨a, by rw [if_neg hk]; exact h, Nat.le_refl _⟩
  · exact ⟨a, by rw [lookupBy_append, h]; rfl, Nat.le_refl _⟩
  · exact ⟨a, h, Nat.le_refl _⟩

theorem gatedPut_covers {l : List α} (x : α) : Covered key sv (gatedPut key sv true l x).1 x := by
  unfold Covered
  rw [lookupBy_gatedPut, if_pos rfl]
  cases lookupBy key l (key x) with
  | none => exact ⟨x, rfl, Nat.le_refl _⟩
  | some old =>
    simp only []
    split
    · exact ⟨x, rfl, Nat.le_refl _⟩
    · rename_i hlt; exact ⟨old, rfl, Nat.le_of_not_lt hlt⟩

theorem covered_mono {am : Bool} {l : List α} (x y : α) (h : Covered key sv l y) :
    Covered key sv (gatedPut key sv am l x).1 y := by
  obtain ⟨a, ha, hle⟩ := h
  obtain ⟨b, hb, hab⟩ := gatedPut_lookup_mono key sv (am := am) x ha
  exact ⟨b, hb, by omega⟩

theorem gatedPutAll_nil (am : Bool) (l : List α) : gatedPutAll key sv am l [] = (l, []) := rfl

theorem gatedPutAll_cons (am : Bool) (l : List α) (x : α) (xs : List α) :
    gatedPutAll key sv am l (x :: xs) =
      ((gatedPutAll key sv am (gatedPut key sv am l x).1 xs).1,
       if (gatedPut key sv am l x).2 then key x :: (gatedPutAll key sv am (gatedPut key sv am l x).1 xs).2
       else (gatedPutAll key sv am (gatedPut key sv am l x).1 xs).2) := rfl

theorem gatedPutAll_induction {am : Bool} {motive : List α → Prop} (xs : List α) {l : List α} (h0 : motive l)
    (hstep : ∀ l, ∀ x ∈ xs, motive l → motive (gatedPut key sv am l x).1) :
    motive (gatedPutAll key sv am l xs).1 := by
  induction xs generalizing l with
  | nil => exact h0
  | cons x xs ih =>
    rw [gatedPutAll_cons]
    exact ih (hstep l x (List.mem_cons_self ..) h0) fun l y hy => hstep l y (List.mem_cons_of_mem _ hy)

theorem gatedPutAll_mem {am : Bool} {xs l : List α} {y : α} (h : y ∈ (gatedPutAll key sv am l xs).1) :
    y ∈ l ∨ y ∈ xs := by
  refine gatedPutAll_induction key sv (motive := fun l' => ∀ y ∈ l', y ∈ l ∨ y ∈ xs) xs (fun _ => Or.inl) ?_ y h
  intro l' x hx ih y hy
  rcases gatedPut_mem key sv hy with h1 | rfl
  · exact ih y h1
  · exact Or.inr hx

theorem gatedPutAll_nodup {am : Bool} (xs : List α) {l : List α} (hn : (l.map key).Nodup) :
    (((gatedPutAll key sv am l xs).1).map key).Nodup :=
  gatedPutAll_induction key sv (motive := fun l' => (l'.map key).Nodup) xs hn fun _ x _ => gatedPut_nodup key sv x

theorem gatedPutAll_lookup_mono {am : Bool} (xs : List α) {l : List α} {k : Nat} {a : α}
    (h : lookupBy key l k = some a) :
    ∃ b, lookupBy key (gatedPutAll key sv am l xs).1 k = some b ∧ sv a ≤ sv b := by
  refine gatedPutAll_induction key sv (motive := fun l' => ∃ b, lookupBy key l' k = some b ∧ sv a ≤ sv b) xs
    ⟨a, h, Nat.le_refl _⟩ ?_
  rintro l' x _ ⟨b, hb, hab⟩
  obtain ⟨c, hc, hbc⟩ := gatedPut_lookup_mono key sv (am := am) x hb
  exact ⟨c, hc, Nat.le_trans hab hbc⟩

theorem gatedPutAll_noop {am : Bool} {xs l : List α}
    (h : ∀ x ∈ xs, Covered key sv l x ∨ (lookupBy key l (key x) = none ∧ am = false)) :
    gatedPutAll key sv am l xs = (l, []) := by
  induction xs with
  | nil => rfl
  | cons x xs ih =>
    rw [gatedPutAll_cons, gatedPut_unchanged key sv (h x (List.mem_cons_self ..)),
      ih fun y hy => h y (List.mem_cons_of_mem _ hy)]
    rfl

theorem gatedPutAll_of_covered {am : Bool} {xs l : List α} (h : ∀ x ∈ xs, Covered key sv l x) :
    gatedPutAll key sv am l xs = (l, []) :=
  gatedPutAll_noop key sv fun x hx => Or.inl (h x hx)

end Gated

theorem Keeps.refl {α : Type} (key sv : α → Nat) (l : List α) : Keeps key sv l l :=
  fun _ a h => ⟨a, h, Nat.le_refl _⟩

theorem Keeps.trans {α : Type} {key sv : α → Nat} {l m n : List α} (h1 : Keeps key sv l m) (h2 : Keeps key sv m n) :
    Keeps key sv l n := by
  intro k a ha
  obtain ⟨b, hb, hab⟩ := h1 k a ha
  obtain ⟨c, hc, hbc⟩ := h2 k b hb
  exact ⟨c, hc, Nat.le_trans hab hbc⟩

theorem keeps_gatedPutAll {α : Type} (key sv : α → Nat) (am : Bool) (l xs : List α) :
    Keeps key sv l (gatedPutAll key sv am l xs).1 :=
  fun _ _ h => gatedPutAll_lookup_mono key sv xs h

/-- every single state and every context state of `t` persists in `t'`, with a version that does not decrease -/
def KeepsStates (t t' : Tables) : Prop :=
  Keeps (·.dh) (·.sv) t.states t'.states ∧ Keeps (·.h) (·.sv) t.cstates t'.cstates

theorem KeepsStates.refl (t : Tables) : KeepsStates t t := ⟨Keeps.refl _ _ _, Keeps.refl _ _ _⟩

theorem KeepsStates.trans {t t1 t2 : Tables} (h1 : KeepsStates t t1) (h2 : KeepsStates t1 t2) : KeepsStates t t2 :=
  ⟨h1.1.trans h2.1, h1.2.trans h2.2⟩

/-- `Keeps` (every entry persists) implies the weaker `Mono` (entries may disappear); not a monotonicity of `Keeps` -/
theorem Keeps.mono {α : Type} {key sv : α → Nat} {l m : List α} (h : Keeps key sv l m) : Mono key sv l m := by
  intro k a b ha hb
  obtain ⟨b', hb', hab⟩ := h k a ha
  rw [hb] at hb'
  cases hb'
  exact hab

theorem Mono.refl {α : Type} (key sv : α → Nat) (l : List α) : Mono key sv l l := (Keeps.refl key sv l).mono

theorem Covered.keeps {α : Type} {key sv : α → Nat} {l l' : List α} {x : α} (h : Covered key sv l x) (hk : Keeps key sv l l') :
    Covered key sv l' x := by
  obtain ⟨a, ha, hle⟩ := h
  obtain ⟨b, hb, hab⟩ := hk _ a ha
  exact ⟨b, hb, Nat.le_trans hle hab⟩

theorem gatedPutAll_covers {α : Type} (key sv : α → Nat) (xs : List α) (l : List α) :
    ∀ x ∈ xs, Covered key sv (gatedPutAll key sv true l xs).1 x := by
  induction xs generalizing l with
  | nil => intro x hx; cases hx
  | cons y ys ih =>
    intro x hx
    rw [gatedPutAll_cons]
    rcases List.mem_cons.mp hx with rfl | hx
    · exact (gatedPut_covers key sv x).keeps (keeps_gatedPutAll key sv true _ ys)
    · exact ih _ x hx

theorem mono_of_origin {α : Type} {key sv : α → Nat} {l l' new : List α} (hn : (l.map key).Nodup)
    (ho : ∀ b ∈ l', b ∈ l ∨ b ∈ new)
    (hnew : ∀ a ∈ l, ∀ b ∈ new, key a = key b → sv a ≤ sv b) : Mono key sv l l' := by
  intro k a b ha hb
  obtain ⟨ham, hak⟩ := lookupBy_some_mem key ha
  obtain ⟨hbm, hbk⟩ := lookupBy_some_mem key hb
  rcases ho b hbm with h | h
  · have := lookupBy_of_mem_nodup key hn h
    rw [hbk, ha] at this
    cases this; exact Nat.le_refl _
  · exact hnew a ham b h (hak.trans hbk.symm)

theorem keysNodup_iff {α : Type} (key : α → Nat) (l : List α) : keysNodup key l = true ↔ (l.map key).Nodup := by
  unfold keysNodup; simp

theorem lookupBy_createDescr (ds : List Descr) (d : Descr) (k : Nat) :
    lookupBy (·.handle) (createDescr ds d) k = if k = d.handle then some d else lookupBy (·.handle) ds k := by
  unfold createDescr
  by_cases hk : k = d.handle
  · subst hk
    rw [if_pos rfl]
    cases ho : lookupBy (·.handle) ds d.handle with
    | none => simp only []; rw [lookupBy_append, ho, lookupBy_cons, if_pos rfl]; rfl
    | some old => simp only []; rw [lookupBy_replaceBy, if_pos rfl, ho]; rfl
  · rw [if_neg hk]
    cases lookupBy (·.handle) ds d.handle with
    | none => simp only []; rw [lookupBy_append, lookupBy_cons, if_neg (Ne.symm hk), lookupBy_nil, Option.or_none]
    | some old => simp only []; rw [lookupBy_replaceBy, if_neg hk]

theorem lookupBy_updateDescr (ds : List Descr) (d : Descr) (k : Nat) :
    lookupBy (·.handle) (updateDescr ds d) k =
      if k = d.handle then (lookupBy (·.handle) ds k).map (fun old => { d with parent := old.parent, mds := old.mds })
      else lookupBy (·.handle) ds k := by
  unfold updateDescr
  by_cases hk : k = d.handle
  · subst hk
    rw [if_pos rfl]
    cases ho : lookupBy (·.handle) ds d.handle with
    | none => exact ho
    | some old => simp only []; rw [lookupBy_replaceBy, if_pos rfl, ho]; rfl
  · rw [if_neg hk]
    cases lookupBy (·.handle) ds d.handle with
    | none => rfl
    | some old => simp only []; rw [lookupBy_replaceBy, if_neg hk]

theorem createDescr_nodup {ds : List Descr} (d : Descr) (h : (ds.map (·.handle)).Nodup) :
    ((createDescr ds d).map (·.handle)).Nodup := by
  unfold createDescr
  split
  · exact nodup_replaceBy _ d h
  · rename_i hn; exact nodup_append_new _ h hn

theorem updateDescr_nodup {ds : List Descr} (d : Descr) (h : (ds.map (·.handle)).Nodup) :
    ((updateDescr ds d).map (·.handle)).Nodup := by
  unfold updateDescr
  split
  · exact nodup_replaceBy _ _ h
  · exact h

theorem subtree_flat {ds : List Descr} {h : Handle} (hc : ∀ d ∈ ds, d.parent ≠ some h) : subtree ds h = [h] := by
  unfold subtree
  have hch : childrenOf ds [h] = [] := by
    unfold childrenOf
    rw [List.map_eq_nil_iff, List.filter_eq_nil_iff]
    intro d hd
    have := hc d hd
    cases hp : d.parent with
    | none => simp
    | some q =>
      have : q ≠ h := fun e => this (by rw [hp, e])
      simp [this]
  cases hn : ds.length with
  | zero => rfl
  | succ n =>
    unfold reach
    simp [hch]

/-- handles of the context states an UPDATE part of a context descriptor lists -/
def keepOf (q : DescrPart) : List Handle := (q.cstates.filter (fun s => s.dh == q.descr.handle)).map (·.h)

/-- the context states an UPDATE part leaves in the table before its own are written: for a context descriptor those
    of another descriptor and those the part lists -/
def keptCStates (cs : List CState) (q : DescrPart) : List CState :=
  if q.descr.kind == Kind.context then cs.filter (fun s => !(s.dh == q.descr.handle && !(keepOf q).contains s.h)) else cs

theorem keptCStates_sublist (cs : List CState) (q : DescrPart) : (keptCStates cs q).Sublist cs := by
  unfold keptCStates
  split
  · exact List.filter_sublist
  · exact List.Sublist.refl _

theorem lookupBy_keptCStates {cs : List CState} (q : DescrPart) (hn : (cs.map (·.h)).Nodup) (k : Nat) :
    lookupBy (·.h) (keptCStates cs q) k = (lookupBy (·.h) cs k).filter
      (fun s => !(q.descr.kind == Kind.context && s.dh == q.descr.handle && !(keepOf q).contains s.h)) := by
  unfold keptCStates
  split
  · rename_i hk; rw [lookupBy_filter_nodup _ _ hn]; simp only [hk, Bool.true_and]
  · rename_i hk
    simp only [Bool.not_eq_true] at hk
    simp only [hk, Bool.false_and, Bool.not_false]
    cases lookupBy (·.h) cs k <;> rfl

theorem applyPart_create {t : Tables} {q : DescrPart} (hm : q.mod = .create) :
    applyPart t q = { descrs := createDescr t.descrs q.descr
                      states := (gatedPutAll (·.dh) (·.sv) true t.states q.states).1
                      cstates := (gatedPutAll (·.h) (·.sv) true t.cstates q.cstates).1 } := by
  unfold applyPart; rw [hm]

theorem applyPart_update {t : Tables} {q : DescrPart} (hm : q.mod = .update) :
    applyPart t q = { descrs := updateDescr t.descrs q.descr
                      states := (gatedPutAll (·.dh) (·.sv) false t.states q.states).1
                      cstates := (gatedPutAll (·.h) (·.sv) false (keptCStates t.cstates q) q.cstates).1 } := by
  unfold applyPart; rw [hm]; rfl

theorem applyPart_delete {t : Tables} {q : DescrPart} (hm : q.mod = .delete) :
    applyPart t q = (rmDescriptor t q.descr.handle).1 := by
  unfold applyPart; rw [hm]

theorem rmDescriptor_absent {t : Tables} {h : Handle} (hl : lookupBy (·.handle) t.descrs h = none) :
    rmDescriptor t h = (t, []) := by
  unfold rmDescriptor; rw [hl]

theorem rmDescriptor_present {t : Tables} {h : Handle} {d : Descr} (hl : lookupBy (·.handle) t.descrs h = some d) :
    rmDescriptor t h =
      ({ descrs := removeBy (·.handle) t.descrs (subtree t.descrs h).contains
         states := removeBy (·.dh) t.states (subtree t.descrs h).contains
         cstates := removeBy (·.dh) t.cstates (subtree t.descrs h).contains }, subtree t.descrs h) := by
  unfold rmDescriptor; rw [hl]

/-- every state of `t'` is one of `t` or of `ss`, every context state one of `t` or of `cs` -/
def Origin (t t' : Tables) (ss : List SState) (cs : List CState) : Prop :=
  (∀ x ∈ t'.states, x ∈ t.states ∨ x ∈ ss) ∧ (∀ x ∈ t'.cstates, x ∈ t.cstates ∨ x ∈ cs)

theorem Origin.refl (t : Tables) (ss : List SState) (cs : List CState) : Origin t t ss cs :=
  ⟨fun _ => Or.inl, fun _ => Or.inl⟩

theorem Origin.step {t t1 t2 : Tables} {ss ss' : List SState} {cs cs' : List CState} (h1 : Origin t t1 ss cs)
    (h2 : Origin t1 t2 ss' cs') (hs : ss' ⊆ ss) (hc : cs' ⊆ cs) : Origin t t2 ss cs :=
  ⟨fun x hx => (h2.1 x hx).elim (h1.1 x) fun h => Or.inr (hs h),
   fun x hx => (h2.2 x hx).elim (h1.2 x) fun h => Or.inr (hc h)⟩

theorem rmDescriptor_wf {t : Tables} (h : Handle) (w : t.Wf) : (rmDescriptor t h).1.Wf := by
  cases hl : lookupBy (·.handle) t.descrs h with
  | none => rw [rmDescriptor_absent hl]; exact w
  | some d =>
    rw [rmDescriptor_present hl]
    exact ⟨nodup_filter_keys _ _ w.d, nodup_filter_keys _ _ w.s, nodup_filter_keys _ _ w.c⟩

theorem rmDescriptor_sublist (t : Tables) (h : Handle) :
    (rmDescriptor t h).1.states.Sublist t.states ∧ (rmDescriptor t h).1.cstates.Sublist t.cstates := by
  cases hl : lookupBy (·.handle) t.descrs h with
  | none => rw [rmDescriptor_absent hl]; exact ⟨List.Sublist.refl _, List.Sublist.refl _⟩
  | some d => rw [rmDescriptor_present hl]; exact ⟨List.filter_sublist, List.filter_sublist⟩

theorem applyPart_wf {t : Tables} (q : DescrPart) (w : t.Wf) : (applyPart t q).Wf := by
  cases hm : q.mod with
  | create =>
    rw [applyPart_create hm]
    exact ⟨createDescr_nodup _ w.d, gatedPutAll_nodup _ _ _ w.s, gatedPutAll_nodup _ _ _ w.c⟩
  | update =>
    rw [applyPart_update hm]
    exact ⟨updateDescr_nodup _ w.d, gatedPutAll_nodup _ _ _ w.s,
      gatedPutAll_nodup _ _ _ (w.c.sublist ((keptCStates_sublist _ q).map _))⟩
  | delete => rw [applyPart_delete hm]; exact rmDescriptor_wf _ w

theorem applyPart_origin (t : Tables) (q : DescrPart) : Origin t (applyPart t q) q.states q.cstates := by
  cases hm : q.mod with
  | create => rw [applyPart_create hm]; exact ⟨fun _ => gatedPutAll_mem _ _, fun _ => gatedPutAll_mem _ _⟩
  | update =>
    rw [applyPart_update hm]
    refine ⟨fun _ => gatedPutAll_mem _ _, fun x hx => ?_⟩
    exact (gatedPutAll_mem _ _ hx).imp_left fun h => (keptCStates_sublist _ q).subset h
  | delete =>
    rw [applyPart_delete hm]
    exact ⟨fun x hx => Or.inl ((rmDescriptor_sublist t _).1.subset hx),
      fun x hx => Or.inl ((rmDescriptor_sublist t _).2.subset hx)⟩

theorem applyPart_keeps {t : Tables} {q : DescrPart} (h : partNonRemoving q = true) : KeepsStates t (applyPart t q) := by
  unfold partNonRemoving at h
  cases hm : q.mod with
  | create => rw [applyPart_create hm]; exact ⟨keeps_gatedPutAll _ _ _ _ _, keeps_gatedPutAll _ _ _ _ _⟩
  | update =>
    -- not a context descriptor: nothing is filtered out
    have hk : keptCStates t.cstates q = t.cstates := by
      unfold keptCStates; rw [if_neg]; simpa [hm] using h
    rw [applyPart_update hm, hk]; exact ⟨keeps_gatedPutAll _ _ _ _ _, keeps_gatedPutAll _ _ _ _ _⟩
  | delete => simp [hm] at h

theorem applyParts_induction {motive : Tables → Prop} (ps : List DescrPart) {t : Tables} (h0 : motive t)
    (hstep : ∀ t, ∀ q ∈ ps, motive t → motive (applyPart t q)) : motive (applyParts t ps) := by
  unfold applyParts
  induction ps generalizing t with
  | nil => exact h0
  | cons q ps ih =>
    exact ih (hstep t q (List.mem_cons_self ..) h0) fun t q' hq' => hstep t q' (List.mem_cons_of_mem _ hq')

theorem applyParts_wf (ps : List DescrPart) {t : Tables} (w : t.Wf) : (applyParts t ps).Wf :=
  applyParts_induction ps w fun _ q _ => applyPart_wf q

theorem applyParts_origin (t : Tables) (ps : List DescrPart) :
    Origin t (applyParts t ps) (ps.flatMap (·.states)) (ps.flatMap (·.cstates)) :=
  applyParts_induction (motive := fun t' => Origin t t' _ _) ps (Origin.refl ..) fun t1 q hq h =>
    h.step (applyPart_origin t1 q) (fun _ hx => List.mem_flatMap.mpr ⟨q, hq, hx⟩)
      (fun _ hx => List.mem_flatMap.mpr ⟨q, hq, hx⟩)

theorem applyParts_keeps {ps : List DescrPart} {t : Tables} (h : ps.all partNonRemoving = true) :
    KeepsStates t (applyParts t ps) :=
  applyParts_induction (motive := KeepsStates t) ps (.refl t) fun _ q hq ih =>
    ih.trans (applyPart_keeps (List.all_eq_true.mp h q hq))

theorem canAccept_iff (c : Core) (r : Report) : canAccept c r = true ↔ c.vg.ver ≤ r.vg.ver := by
  unfold canAccept; simp

theorem applyReport_stale {c : Core} {r : Report} (h : r.vg.ver < c.vg.ver) :
    applyReport c r = (c, { kind := r.kind }) := by
  have : canAccept c r = false := by rw [Bool.eq_false_iff, Ne, canAccept_iff]; omega
  unfold applyReport; rw [this]; rfl

theorem applyReport_context {c : Core} {r : Report} (hv : c.vg.ver ≤ r.vg.ver) (hk : r.kind = .context) :
    applyReport c r =
      (⟨r.vg, { c.tabs with cstates := (gatedPutAll (·.h) (·.sv) true c.tabs.cstates r.cstates).1 }⟩,
       { kind := r.kind, handles := (gatedPutAll (·.h) (·.sv) true c.tabs.cstates r.cstates).2 }) := by
  unfold applyReport; rw [(canAccept_iff c r).2 hv, if_pos rfl, hk]

theorem applyReport_description {c : Core} {r : Report} (hv : c.vg.ver ≤ r.vg.ver) (hk : r.kind = .description) :
    applyReport c r =
      (⟨r.vg, applyParts c.tabs r.parts⟩,
       { kind := r.kind, created := partHandles .create r.parts, updated := partHandles .update r.parts,
         deleted := deletedNotif c.tabs r.parts }) := by
  unfold applyReport; rw [(canAccept_iff c r).2 hv, if_pos rfl, hk]

theorem applyReport_states {c : Core} {r : Report} (hv : c.vg.ver ≤ r.vg.ver) (hd : r.kind ≠ .description)
    (hc : r.kind ≠ .context) :
    applyReport c r =
      (⟨r.vg, { c.tabs with states := (gatedPutAll (·.dh) (·.sv) true c.tabs.states r.states).1 }⟩,
       { kind := r.kind, handles := (gatedPutAll (·.dh) (·.sv) true c.tabs.states r.states).2 }) := by
  unfold applyReport; rw [(canAccept_iff c r).2 hv, if_pos rfl]
  cases hk : r.kind with
  | context => exact absurd hk hc
  | description => exact absurd hk hd
  | _ => rfl

theorem applyReport_tabs {motive : Tables → Prop} (c : Core) (r : Report) (stale : motive c.tabs)
    (context : r.kind = .context →
      motive { c.tabs with cstates := (gatedPutAll (·.h) (·.sv) true c.tabs.cstates r.cstates).1 })
    (description : r.kind = .description → motive (applyParts c.tabs r.parts))
    (states : r.kind ≠ .description → r.kind ≠ .context →
      motive { c.tabs with states := (gatedPutAll (·.dh) (·.sv) true c.tabs.states r.states).1 }) :
    motive (applyReport c r).1.tabs := by
  rcases Nat.lt_or_ge r.vg.ver c.vg.ver with hv | hv
  · rw [applyReport_stale hv]; exact stale
  by_cases hd : r.kind = .description
  · rw [applyReport_description hv hd]; exact description hd
  by_cases hc : r.kind = .context
  · rw [applyReport_context hv hc]; exact context hc
  · rw [applyReport_states hv hd hc]; exact states hd hc

theorem applyReport_vg (c : Core) (r : Report) :
    (applyReport c r).1.vg = if c.vg.ver ≤ r.vg.ver then r.vg else c.vg := by
  split
  · rename_i hv
    by_cases hd : r.kind = .description
    · rw [applyReport_description hv hd]
    by_cases hc : r.kind = .context
    · rw [applyReport_context hv hc]
    · rw [applyReport_states hv hd hc]
  · rename_i hv; rw [applyReport_stale (Nat.lt_of_not_le hv)]

theorem applyReport_ver_le (c : Core) (r : Report) : c.vg.ver ≤ (applyReport c r).1.vg.ver := by
  rw [applyReport_vg]; split
  · assumption
  · exact Nat.le_refl _

theorem applyReport_seq {c : Core} {r : Report} (h : r.vg.seq = c.vg.seq) : (applyReport c r).1.vg.seq = c.vg.seq := by
  rw [applyReport_vg]; split
  · exact h
  · rfl

theorem applyReport_wf {c : Core} (r : Report) (w : c.tabs.Wf) : (applyReport c r).1.tabs.Wf :=
  applyReport_tabs c r w (fun _ => ⟨w.d, w.s, gatedPutAll_nodup _ _ _ w.c⟩) (fun _ => applyParts_wf _ w)
    (fun _ _ => ⟨w.d, gatedPutAll_nodup _ _ _ w.s, w.c⟩)

theorem applyReport_origin (c : Core) (r : Report) :
    Origin c.tabs (applyReport c r).1.tabs (allStates r) (allCStates r) :=
  applyReport_tabs (motive := fun t' => Origin c.tabs t' _ _) c r (Origin.refl ..)
    (fun _ => ⟨fun _ => Or.inl, fun _ hx => (gatedPutAll_mem _ _ hx).imp_right (List.mem_append_left _)⟩)
    (fun _ => (Origin.refl ..).step (applyParts_origin ..) (List.subset_append_right ..) (List.subset_append_right ..))
    (fun _ _ => ⟨fun _ hx => (gatedPutAll_mem _ _ hx).imp_right (List.mem_append_left _), fun _ => Or.inl⟩)

theorem applyReport_keeps {c : Core} {r : Report} (h : nonRemoving r = true) :
    KeepsStates c.tabs (applyReport c r).1.tabs := by
  refine applyReport_tabs (motive := KeepsStates c.tabs) c r (.refl _) ?_ ?_ ?_
  · exact fun _ => ⟨Keeps.refl _ _ _, keeps_gatedPutAll _ _ _ _ _⟩
  · intro hk; unfold nonRemoving at h; rw [hk] at h; exact applyParts_keeps h
  · exact fun _ _ => ⟨keeps_gatedPutAll _ _ _ _ _, Keeps.refl _ _ _⟩

theorem applyAll_induction {motive : Core → Prop} (rs : List Report) {c : Core} (h0 : motive c)
    (hstep : ∀ c, ∀ r ∈ rs, motive c → motive (applyReport c r).1) : motive (applyAll c rs).1 := by
  induction rs generalizing c with
  | nil => exact h0
  | cons r rs ih =>
    exact ih (hstep c r (List.mem_cons_self ..) h0) fun c r' hr' => hstep c r' (List.mem_cons_of_mem _ hr')

theorem applyAll_wf (rs : List Report) {c : Core} (w : c.tabs.Wf) : (applyAll c rs).1.tabs.Wf :=
  applyAll_induction (motive := fun c => c.tabs.Wf) rs w fun _ r _ => applyReport_wf r

theorem applyAll_ver_le (rs : List Report) (c : Core) : c.vg.ver ≤ (applyAll c rs).1.vg.ver :=
  applyAll_induction (motive := fun c' => c.vg.ver ≤ c'.vg.ver) rs (Nat.le_refl _)
    fun c' r _ h => Nat.le_trans h (applyReport_ver_le c' r)

theorem applyAll_origin (c : Core) (rs : List Report) :
    Origin c.tabs (applyAll c rs).1.tabs (rs.flatMap allStates) (rs.flatMap allCStates) :=
  applyAll_induction (motive := fun c' => Origin c.tabs c'.tabs _ _) rs (Origin.refl ..) fun c' r hr h =>
    h.step (applyReport_origin c' r) (fun _ hx => List.mem_flatMap.mpr ⟨r, hr, hx⟩)
      (fun _ hx => List.mem_flatMap.mpr ⟨r, hr, hx⟩)

theorem applyAll_keeps {rs : List Report} {c : Core} (h : ∀ r ∈ rs, nonRemoving r = true) :
    Keeps (·.dh) (·.sv) c.tabs.states (applyAll c rs).1.tabs.states ∧
    Keeps (·.h) (·.sv) c.tabs.cstates (applyAll c rs).1.tabs.cstates :=
  applyAll_induction (motive := fun c' => KeepsStates c.tabs c'.tabs) rs (.refl _) fun _ r hr ih =>
    ih.trans (applyReport_keeps (h r hr))

theorem replayable_iff (v0 seq : Nat) (r : Report) : replayable v0 seq r = true ↔ r.vg.seq = seq ∧ v0 < r.vg.ver := by
  unfold replayable; simp

theorem replay_eq_applyAll (v0 : Nat) (rs : List Report) (c : Core) :
    replay v0 c rs = applyAll c (rs.filter (replayable v0 c.vg.seq)) := by
  induction rs generalizing c with
  | nil => rfl
  | cons r rs ih =>
    unfold replay
    rw [List.filter_cons]
    by_cases h : replayable v0 c.vg.seq r = true
    · have h' := (replayable_iff ..).1 h
      rw [if_pos h, if_neg (by simp [h'.1]), if_neg (Nat.not_le.mpr h'.2)]
      show ((replay v0 (applyReport c r).1 rs).1, (applyReport c r).2 :: (replay v0 (applyReport c r).1 rs).2) = _
      rw [ih, applyReport_seq h'.1]
      rfl
    · rw [if_neg h]
      rw [replayable_iff, not_and, Nat.not_lt] at h
      split
      · exact ih c
      · rename_i hs; rw [if_pos (h (by simpa using hs))]; exact ih c

theorem snapshot_wf_iff (s : Snapshot) (ctx2 : List CState) :
    s.wf ctx2 = true ↔ (s.descrs.map (·.handle)).Nodup ∧ (s.states.map (·.dh)).Nodup ∧ (s.cstates.map (·.h)).Nodup ∧
      (ctx2.map (·.h)).Nodup := by
  unfold Snapshot.wf
  simp only [Bool.and_eq_true, keysNodup_iff, and_assoc]

theorem loadSnapshot_wf {s : Snapshot} {ctx2 : List CState} (h : s.wf ctx2 = true) : (loadSnapshot s ctx2).tabs.Wf := by
  rw [snapshot_wf_iff] at h
  refine ⟨h.1, h.2.1, ?_⟩
  show ((if s.cstates.isEmpty then ctx2 else s.cstates).map _).Nodup
  split
  · exact h.2.2.2
  · exact h.2.2.1

theorem loadSnapshot_cstates_subset (s : Snapshot) (ctx2 : List CState) :
    (loadSnapshot s ctx2).tabs.cstates ⊆ s.cstates ++ ctx2 := by
  show (if s.cstates.isEmpty then ctx2 else s.cstates) ⊆ _
  split
  · exact List.subset_append_right ..
  · exact List.subset_append_left ..

theorem step_report_invalid {s : St} (r : Report) (h : s.mode = .invalid) : step s (.report r) = (s, []) := by
  unfold step
  simp [h]

theorem step_report_initializing {s : St} (r : Report) (h : s.mode = .initializing) :
    step s (.report r) = ({ s with buf := s.buf ++ [r] }, []) := by
  unfold step
  simp [h]

theorem step_report_changed {s : St} (r : Report) (h : s.mode = .initialized) (hd : idsDiffer s.core r = true) :
    step s (.report r) = ({ s with mode := .invalid }, [{ kind := r.kind, idChanged := true }]) := by
  unfold step
  simp [h, hd]

theorem step_report_ok {s : St} (r : Report) (h : s.mode = .initialized) (hd : idsDiffer s.core r = false) :
    step s (.report r) = ({ s with core := (applyReport s.core r).1 }, [(applyReport s.core r).2]) := by
  unfold step
  simp [h, hd]

theorem idsDiffer_eq_false_iff (c : Core) (r : Report) :
    idsDiffer c r = false ↔ r.vg.seq = c.vg.seq ∧ r.vg.inst = c.vg.inst := by
  unfold idsDiffer; simp

theorem step_report_cases (s : St) (r : Report) :
    (s.mode = .invalid ∧ step s (.report r) = (s, [])) ∨
    (s.mode = .initializing ∧ step s (.report r) = ({ s with buf := s.buf ++ [r] }, [])) ∨
    (s.mode = .initialized ∧ idsDiffer s.core r = true ∧
      step s (.report r) = ({ s with mode := .invalid }, [{ kind := r.kind, idChanged := true }])) ∨
    (s.mode = .initialized ∧ idsDiffer s.core r = false ∧
      step s (.report r) = ({ s with core := (applyReport s.core r).1 }, [(applyReport s.core r).2])) := by
  have hmode : s.mode = .invalid ∨ s.mode = .initializing ∨ s.mode = .initialized := by cases s.mode <;> simp
  rcases hmode with hm | hm | hm
  · exact Or.inl ⟨hm, step_report_invalid r hm⟩
  · exact Or.inr (Or.inl ⟨hm, step_report_initializing r hm⟩)
  · cases hd : idsDiffer s.core r
    · exact Or.inr (Or.inr (Or.inr ⟨hm, rfl, step_report_ok r hm hd⟩))
    · exact Or.inr (Or.inr (Or.inl ⟨hm, rfl, step_report_changed r hm hd⟩))

theorem step_reloadEnd {s : St} (snap : Snapshot) (ctx2 : List CState) (h : s.mode = .initializing)
    (hw : snap.wf ctx2 = true) :
    step s (.reloadEnd snap ctx2) =
      (⟨.initialized, (replay snap.vg.ver (loadSnapshot snap ctx2) s.buf).1, []⟩,
       (replay snap.vg.ver (loadSnapshot snap ctx2) s.buf).2) := by
  unfold step
  simp [h, hw, loadSnapshot]

theorem step_reloadEnd_rejected {s : St} (snap : Snapshot) (ctx2 : List CState)
    (h : ¬ (s.mode = .initializing ∧ snap.wf ctx2 = true)) : (step s (.reloadEnd snap ctx2)).1 = s := by
  unfold step
  by_cases hm : s.mode = .initializing
  · have hw : snap.wf ctx2 = false := by simpa [hm] using h
    simp [hm, hw]
  · simp [hm]

theorem step_core {motive : Core → Prop} (s : St) (e : Event) (same : motive s.core)
    (report : ∀ r, e = .report r → motive (applyReport s.core r).1)
    (reset : e = .reloadBegin → motive ⟨⟨0, 0, none⟩, {}⟩)
    (reload : ∀ snap ctx2, e = .reloadEnd snap ctx2 → snap.wf ctx2 = true →
      motive (applyAll (loadSnapshot snap ctx2) (s.buf.filter (replayable snap.vg.ver snap.vg.seq))).1) :
    motive (step s e).1.core := by
  cases e with
  | report r =>
    rcases step_report_cases s r with ⟨_, h⟩ | ⟨_, h⟩ | ⟨_, _, h⟩ | ⟨_, _, h⟩ <;> rw [h]
    · exact same
    · exact same
    · exact same
    · exact report r rfl
  | reloadBegin => exact reset rfl
  | reloadEnd snap ctx2 =>
    by_cases h : s.mode = .initializing ∧ snap.wf ctx2 = true
    · rw [step_reloadEnd snap ctx2 h.1 h.2, replay_eq_applyAll]; exact reload snap ctx2 rfl h.2
    · rw [step_reloadEnd_rejected snap ctx2 h]; exact same

theorem step_wf {s : St} (e : Event) (w : s.core.tabs.Wf) : (step s e).1.core.tabs.Wf :=
  step_core (motive := fun c => c.tabs.Wf) s e w (fun r _ => applyReport_wf r w)
    (fun _ => ⟨List.nodup_nil, List.nodup_nil, List.nodup_nil⟩)
    (fun _ _ _ hw => applyAll_wf _ (loadSnapshot_wf hw))

theorem run_nil (s : St) : run s [] = s := rfl
theorem run_cons (s : St) (e : Event) (evs : List Event) : run s (e :: evs) = run (step s e).1 evs := rfl

theorem run_append (s : St) (e1 e2 : List Event) : run s (e1 ++ e2) = run (run s e1) e2 := by
  unfold run; rw [List.foldl_append]

theorem run_induction {motive : St → Prop} (evs : List Event) {s : St} (h0 : motive s)
    (hstep : ∀ s, ∀ e ∈ evs, motive s → motive (step s e).1) : motive (run s evs) := by
  induction evs generalizing s with
  | nil => exact h0
  | cons e evs ih =>
    exact ih (hstep s e (List.mem_cons_self ..) h0) fun s e' he' => hstep s e' (List.mem_cons_of_mem _ he')

theorem run_reports_induction {motive : St → Prop} (rs : List Report) {s : St} (h0 : motive s)
    (hstep : ∀ s, ∀ r ∈ rs, motive s → motive (step s (.report r)).1) : motive (run s (rs.map .report)) :=
  run_induction _ h0 fun s e he => by
    obtain ⟨r, hr, rfl⟩ := List.mem_map.mp he
    exact hstep s r hr

theorem run_wf (evs : List Event) {s : St} (w : s.core.tabs.Wf) : (run s evs).core.tabs.Wf :=
  run_induction (motive := fun s => s.core.tabs.Wf) evs w fun _ e _ => step_wf e

/-- every single state in the tables or in the buffer satisfies `P`, every context state `Q` -/
def HeldFrom (P : SState → Prop) (Q : CState → Prop) (s : St) : Prop :=
  ((∀ x ∈ s.core.tabs.states, P x) ∧ ∀ x ∈ s.core.tabs.cstates, Q x) ∧
  ∀ r ∈ s.buf, (∀ x ∈ allStates r, P x) ∧ ∀ x ∈ allCStates r, Q x

theorem step_heldFrom {P : SState → Prop} {Q : CState → Prop} {s : St} (e : Event) (hs : HeldFrom P Q s)
    (hes : ∀ x ∈ eventStates e, P x) (hec : ∀ x ∈ eventCStates e, Q x) : HeldFrom P Q (step s e).1 := by
  have hreport : ∀ r, e = .report r → (∀ x ∈ allStates r, P x) ∧ ∀ x ∈ allCStates r, Q x := by
    rintro r rfl; exact ⟨hes, hec⟩
  constructor
  · -- the tables: what a handler writes comes from its report, what a reload writes from the answers and the buffer
    refine step_core (motive := fun c => (∀ x ∈ c.tabs.states, P x) ∧ ∀ x ∈ c.tabs.cstates, Q x) s e hs.1 ?_ ?_ ?_
    · intro r he
      have ho := applyReport_origin s.core r
      exact ⟨fun x hx => (ho.1 x hx).elim (hs.1.1 x) ((hreport r he).1 x),
        fun x hx => (ho.2 x hx).elim (hs.1.2 x) ((hreport r he).2 x)⟩
    · exact fun _ => ⟨fun x hx => (nomatch hx), fun x hx => (nomatch hx)⟩
    · rintro snap ctx2 rfl _
      have ho := applyAll_origin (loadSnapshot snap ctx2) (s.buf.filter (replayable snap.vg.ver snap.vg.seq))
      have hbuf : ∀ r ∈ s.buf.filter (replayable snap.vg.ver snap.vg.seq), r ∈ s.buf :=
        fun r hr => (List.mem_filter.mp hr).1
      constructor
      · intro x hx
        rcases ho.1 x hx with h | h
        · exact hes x h
        · obtain ⟨r, hr, hxr⟩ := List.mem_flatMap.mp h; exact (hs.2 r (hbuf r hr)).1 x hxr
      · intro x hx
        rcases ho.2 x hx with h | h
        · exact hec x (loadSnapshot_cstates_subset snap ctx2 h)
        · obtain ⟨r, hr, hxr⟩ := List.mem_flatMap.mp h; exact (hs.2 r (hbuf r hr)).2 x hxr
  · -- the buffer: grows by the report, or is emptied
    cases e with
    | report r =>
      rcases step_report_cases s r with ⟨_, h⟩ | ⟨_, h⟩ | ⟨_, _, h⟩ | ⟨_, _, h⟩ <;> rw [h]
      · exact hs.2
      · intro q hq
        rcases List.mem_append.mp hq with h1 | h1
        · exact hs.2 q h1
        · rw [List.mem_singleton.mp h1]; exact hreport r rfl
      · exact hs.2
      · exact hs.2
    | reloadBegin => exact hs.2
    | reloadEnd snap ctx2 =>
      by_cases h : s.mode = .initializing ∧ snap.wf ctx2 = true
      · rw [step_reloadEnd snap ctx2 h.1 h.2]; exact fun r hr => nomatch hr
      · rw [step_reloadEnd_rejected snap ctx2 h]; exact hs.2

theorem run_heldFrom {P : SState → Prop} {Q : CState → Prop} (evs : List Event) {s : St} (hs : HeldFrom P Q s)
    (he : ∀ e ∈ evs, (∀ x ∈ eventStates e, P x) ∧ ∀ x ∈ eventCStates e, Q x) : HeldFrom P Q (run s evs) :=
  run_induction evs hs fun _ e hm h => step_heldFrom e h (he e hm).1 (he e hm).2

theorem step_report_ver_le (s : St) (r : Report) : s.core.vg.ver ≤ (step s (.report r)).1.core.vg.ver :=
  step_core (motive := fun c => s.core.vg.ver ≤ c.vg.ver) s (.report r) (Nat.le_refl _)
    (fun r _ => applyReport_ver_le _ r) (fun h => nomatch h) (fun _ _ h => nomatch h)

theorem step_report_keeps {s : St} {r : Report} (hr : nonRemoving r = true) :
    KeepsStates s.core.tabs (step s (.report r)).1.core.tabs :=
  step_core (motive := fun c => KeepsStates s.core.tabs c.tabs) s (.report r) (.refl _)
    (fun r' h => by cases h; exact applyReport_keeps hr) (fun h => nomatch h) (fun _ _ h => nomatch h)

theorem run_reports_ver_le (rs : List Report) (s : St) : s.core.vg.ver ≤ (run s (rs.map .report)).core.vg.ver :=
  run_reports_induction (motive := fun s' => s.core.vg.ver ≤ s'.core.vg.ver) rs (Nat.le_refl _)
    fun s' r _ h => Nat.le_trans h (step_report_ver_le s' r)

theorem run_reports_keeps {rs : List Report} {s : St} (h : ∀ r ∈ rs, nonRemoving r = true) :
    KeepsStates s.core.tabs (run s (rs.map .report)).core.tabs :=
  run_reports_induction (motive := fun s' => KeepsStates s.core.tabs s'.core.tabs) rs (.refl _) fun _ r hr ih =>
    ih.trans (step_report_keeps (h r hr))

theorem run_reports_invalid {rs : List Report} {s : St} (h : s.mode = .invalid) : run s (rs.map .report) = s :=
  run_reports_induction (motive := fun s' => s' = s) rs rfl fun s' r _ e => by rw [e, step_report_invalid r h]

theorem run_reports_initializing {rs : List Report} {s : St} (h : s.mode = .initializing) :
    run s (rs.map .report) = { s with buf := s.buf ++ rs } := by
  induction rs generalizing s with
  | nil => simp [run_nil]
  | cons r rs ih =>
    rw [List.map_cons, run_cons, step_report_initializing r h, ih (s := { s with buf := s.buf ++ [r] }) h]
    simp

theorem applyReport_of_covered {c : Core} {r : Report} (hk : r.kind ≠ .description) (h : StatesCovered c r) :
    (applyReport c r).1.tabs = c.tabs ∧ (applyReport c r).2 = { kind := r.kind } := by
  unfold StatesCovered at h
  rcases Nat.lt_or_ge r.vg.ver c.vg.ver with hv | hv
  · rw [applyReport_stale hv]; exact ⟨rfl, rfl⟩
  by_cases hc : r.kind = .context
  · rw [if_pos hc] at h
    rw [applyReport_context hv hc, gatedPutAll_of_covered _ _ h]; exact ⟨rfl, rfl⟩
  · rw [if_neg hc] at h
    rw [applyReport_states hv hk hc, gatedPutAll_of_covered _ _ h]; exact ⟨rfl, rfl⟩

theorem applyReport_covers {c : Core} {r : Report} (hk : r.kind ≠ .description) (hv : c.vg.ver ≤ r.vg.ver) :
    StatesCovered (applyReport c r).1 r := by
  unfold StatesCovered
  split
  · rename_i hc; rw [applyReport_context hv hc]; exact gatedPutAll_covers _ _ _ _
  · rename_i hc; rw [applyReport_states hv hk hc]; exact gatedPutAll_covers _ _ _ _

theorem StatesCovered.keeps {c c' : Core} {r : Report} (h : StatesCovered c r) (hk : KeepsStates c.tabs c'.tabs) :
    StatesCovered c' r := by
  unfold StatesCovered at h ⊢
  split
  · rename_i hc; rw [if_pos hc] at h; exact fun x hx => (h x hx).keeps hk.2
  · rename_i hc; rw [if_neg hc] at h; exact fun x hx => (h x hx).keeps hk.1

theorem applyPart_of_settled {t : Tables} {q : DescrPart} (w : t.Wf) (h : partSettled t q) : applyPart t q = t := by
  unfold partSettled at h
  cases hm : q.mod with
  | create =>
    rw [hm] at h
    obtain ⟨hd, hs, hc⟩ := h
    have e1 : createDescr t.descrs q.descr = t.descrs := by
      unfold createDescr; rw [hd]; exact replaceBy_self_of_lookup _ w.d hd
    rw [applyPart_create hm, e1, gatedPutAll_of_covered _ _ hs, gatedPutAll_of_covered _ _ hc]
  | update =>
    rw [hm] at h
    obtain ⟨hd, hf, hs, hc⟩ := h
    have e1 : updateDescr t.descrs q.descr = t.descrs := by
      unfold updateDescr
      cases ho : lookupBy (·.handle) t.descrs q.descr.handle with
      | none => rfl
      | some old =>
        -- the entry already is the descriptor of the part under the parent it has
        refine replaceBy_self_of_lookup _ w.d ?_
        rw [← hd old ho]; exact (lookupBy_some_mem _ ho).2 ▸ ho
    have e2 : keptCStates t.cstates q = t.cstates := by
      unfold keptCStates
      split
      · rename_i hk
        refine List.filter_eq_self.mpr fun s hs' => ?_
        by_cases hdh : s.dh = q.descr.handle
        · have := hf (by simpa using hk) s hs' hdh
          simp [keepOf, this]
        · simp [hdh]
      · rfl
    rw [applyPart_update hm, e1, e2, gatedPutAll_noop _ _ fun x hx => (hs x hx).symm.imp_right (⟨·, rfl⟩),
      gatedPutAll_noop _ _ fun x hx => (hc x hx).symm.imp_right (⟨·, rfl⟩)]
  | delete =>
    rw [hm] at h
    rw [applyPart_delete hm, rmDescriptor_absent h]

theorem applyParts_of_settled {ps : List DescrPart} {t : Tables} (w : t.Wf) (h : ∀ p ∈ ps, partSettled t p) :
    applyParts t ps = t :=
  applyParts_induction (motive := fun t' => t' = t) ps rfl fun _ q hq e => by
    rw [e]; exact applyPart_of_settled w (h q hq)

theorem applyReport_coherent {pool : List Source} {c : Core} {r : Report} (hc : Coherent pool)
    (hr : Source.ofReport r ∈ pool) (hseq : r.vg.seq = c.vg.seq) (w : c.tabs.Wf) (hj : Justified pool c) :
    Mono (·.dh) (·.sv) c.tabs.states (applyReport c r).1.tabs.states ∧
    Mono (·.h) (·.sv) c.tabs.cstates (applyReport c r).1.tabs.cstates ∧
    Justified pool (applyReport c r).1 := by
  rcases Nat.lt_or_ge r.vg.ver c.vg.ver with hv | hv
  · rw [applyReport_stale hv]; exact ⟨Mono.refl _ _ _, Mono.refl _ _ _, hj⟩
  have ho := applyReport_origin c r
  have hvg : (applyReport c r).1.vg = r.vg := by rw [applyReport_vg, if_pos hv]
  -- a state the consumer holds was published not later than `r`, under the same SequenceId
  have hold := fun sa (hs1 : sa.vg.seq = c.vg.seq) (hs2 : sa.vg.ver ≤ c.vg.ver) (hsa : sa ∈ pool) =>
    hc sa hsa _ hr (hs1.trans hseq.symm) (Nat.le_trans hs2 hv)
  refine ⟨mono_of_origin w.s ho.1 ?_, mono_of_origin w.c ho.2 ?_, ?_, ?_⟩
  · intro a ha b hb hab
    obtain ⟨sa, hsa, hs1, hs2, hs3⟩ := hj.1 a ha
    exact (hold sa hs1 hs2 hsa).1 a hs3 b hb hab
  · intro a ha b hb hab
    obtain ⟨sa, hsa, hs1, hs2, hs3⟩ := hj.2 a ha
    exact (hold sa hs1 hs2 hsa).2 a hs3 b hb hab
  · intro x hx
    rw [hvg]
    rcases ho.1 x hx with h | h
    · obtain ⟨sa, hsa, hs1, hs2, hs3⟩ := hj.1 x h
      exact ⟨sa, hsa, hs1.trans hseq.symm, Nat.le_trans hs2 hv, hs3⟩
    · exact ⟨_, hr, rfl, Nat.le_refl _, h⟩
  · intro x hx
    rw [hvg]
    rcases ho.2 x hx with h | h
    · obtain ⟨sa, hsa, hs1, hs2, hs3⟩ := hj.2 x h
      exact ⟨sa, hsa, hs1.trans hseq.symm, Nat.le_trans hs2 hv, hs3⟩
    · exact ⟨_, hr, rfl, Nat.le_refl _, h⟩

theorem applyAll_justified {pool : List Source} (hcoh : Coherent pool) (q : Nat) (rs : List Report) (c : Core)
    (hj : Justified pool c) (hw : c.tabs.Wf) (hseq : c.vg.seq = q)
    (hsub : ∀ r ∈ rs, Source.ofReport r ∈ pool ∧ r.vg.seq = q) : Justified pool (applyAll c rs).1 := by
  refine (applyAll_induction (motive := fun c => Justified pool c ∧ c.tabs.Wf ∧ c.vg.seq = q) rs ⟨hj, hw, hseq⟩ ?_).1
  rintro c r hr ⟨hj, hw, hseq⟩
  have hrs : r.vg.seq = c.vg.seq := (hsub r hr).2.trans hseq.symm
  exact ⟨(applyReport_coherent hcoh (hsub r hr).1 hrs hw hj).2.2, applyReport_wf r hw, (applyReport_seq hrs).trans hseq⟩

/-- after every load the states come from the GetMdib answer and the replayed reports keep `Justified` -/
theorem justified_reloadEnd {pool : List Source} (s : St) (snap : Snapshot) (hs : Source.ofSnapshot snap ∈ pool)
    (hb : ∀ r ∈ s.buf, Source.ofReport r ∈ pool) (hcoh : Coherent pool) (hm : s.mode = .initializing)
    (hw : snap.wf [] = true) : Justified pool (step s (.reloadEnd snap [])).1.core := by
  rw [step_reloadEnd snap [] hm hw, replay_eq_applyAll]
  have hj0 : Justified pool (loadSnapshot snap []) :=
    ⟨fun x hx => ⟨_, hs, rfl, Nat.le_refl _, hx⟩,
     fun x hx => ⟨_, hs, rfl, Nat.le_refl _, by have := loadSnapshot_cstates_subset snap [] hx; rwa [List.append_nil] at this⟩⟩
  refine applyAll_justified hcoh snap.vg.seq _ _ hj0 (loadSnapshot_wf hw) rfl fun r hr => ?_
  rw [List.mem_filter, replayable_iff] at hr
  exact ⟨hb r hr.1, hr.2.1⟩

end Sdc.Consumer
