import SdcModel.Proofs.MdibSC
/-!
# `WFm S C t`: well-formedness + kind discipline, with the DescriptorVersion link relaxed for the single states in `S` and the
context states in `C` (those that a running descriptor commit still has to write)
-/
namespace Sdc.Mdib

structure WFm (S C : Handle → Prop) (t : Tables) : Prop where
  dKeys : (t.descrs.map (·.handle)).Nodup
  sKeys : (t.states.map (·.dh)).Nodup
  cKeys : (t.ctx.map (·.h)).Nodup
  sRef : ∀ s ∈ t.states, s.kind ≠ .context ∧ ∃ d ∈ t.descrs, d.handle = s.dh ∧ d.kind ≠ .context ∧ (¬ S s.dh → d.ver = s.dv)
  cRef : ∀ c ∈ t.ctx, ∃ d ∈ t.descrs, d.handle = c.dh ∧ d.kind = .context ∧ (¬ C c.h → d.ver = c.dv)
  parent : ∀ d ∈ t.descrs, ∀ p ∈ d.parent, ∃ q ∈ t.descrs, q.handle = p

theorem WFm.of_wf {t : Tables} (hw : WF t) (hk : KOK t) : WFm (fun _ => False) (fun _ => False) t := by
  refine ⟨hw.dKeys, hw.sKeys, hw.cKeys, ?_, ?_, hw.parent⟩
  · intro s hs
    obtain ⟨d, hd, e1, e2⟩ := hw.sRef s hs
    exact ⟨hk.kS s hs, d, hd, e1, hk.kSD s hs d hd e1, fun _ => e2⟩
  · intro c hc
    obtain ⟨d, hd, e1, e2⟩ := hw.cRef c hc
    exact ⟨d, hd, e1, hk.kCD c hc d hd e1, fun _ => e2⟩

theorem WFm.wf {S C : Handle → Prop} {t : Tables} (h : WFm S C t) (hS : ∀ x, ¬ S x) (hC : ∀ x, ¬ C x) : WF t ∧ KOK t := by
  refine ⟨⟨h.dKeys, h.sKeys, h.cKeys, ?_, ?_, h.parent⟩, ⟨fun s hs => (h.sRef s hs).1, ?_, ?_⟩⟩
  · intro s hs
    obtain ⟨_, d, hd, e1, _, e2⟩ := h.sRef s hs
    exact ⟨d, hd, e1, e2 (hS _)⟩
  · intro c hc
    obtain ⟨d, hd, e1, _, e2⟩ := h.cRef c hc
    exact ⟨d, hd, e1, e2 (hC _)⟩
  · intro s hs d' hd' e
    obtain ⟨_, d, hd, e1, e2, _⟩ := h.sRef s hs
    rw [mem_unique h.dKeys hd' hd (e.trans e1.symm)]; exact e2
  · intro c hc d' hd' e
    obtain ⟨d, hd, e1, e2, _⟩ := h.cRef c hc
    rw [mem_unique h.dKeys hd' hd (e.trans e1.symm)]; exact e2

theorem WFm.mono {S C S' C' : Handle → Prop} {t : Tables} (h : WFm S C t) (hS : ∀ x, S x → S' x) (hC : ∀ x, C x → C' x) :
    WFm S' C' t := by
  refine ⟨h.dKeys, h.sKeys, h.cKeys, ?_, ?_, h.parent⟩
  · intro s hs
    obtain ⟨k, d, hd, e1, e2, e3⟩ := h.sRef s hs
    exact ⟨k, d, hd, e1, e2, fun hn => e3 (fun hx => hn (hS _ hx))⟩
  · intro c hc
    obtain ⟨d, hd, e1, e2, e3⟩ := h.cRef c hc
    exact ⟨d, hd, e1, e2, fun hn => e3 (fun hx => hn (hC _ hx))⟩

theorem WFm.of_ver {S C : Handle → Prop} {t : Tables} (h : WFm S C t) (v : Nat) : WFm S C { t with ver := v } :=
  ⟨h.1, h.2, h.3, h.4, h.5, h.6⟩

theorem WFm.putState {S C : Handle → Prop} {t : Tables} (hw : WFm S C t) {h : Handle} {n : SState} (hn : n.dh = h)
    (hk : n.kind ≠ .context) (hd : ∃ d ∈ t.descrs, d.handle = h ∧ d.kind ≠ .context ∧ d.ver = n.dv) :
    WFm (fun x => S x ∧ x ≠ h) C (putState t h n) := by
  refine ⟨(putState_descrs t h n).symm ▸ hw.dKeys, putState_sKeys hw.sKeys hn, (putState_ctx t h n).symm ▸ hw.cKeys,
    ?_, ?_, (putState_descrs t h n).symm ▸ hw.parent⟩
  · intro s hs
    rw [putState_descrs]
    rcases mem_putState hs with rfl | ⟨hs, hne⟩
    · obtain ⟨d, hd, e1, e2, e3⟩ := hd
      exact ⟨hk, d, hd, e1.trans hn.symm, e2, fun _ => e3⟩
    · obtain ⟨k, d, hd, e1, e2, e3⟩ := hw.sRef s hs
      exact ⟨k, d, hd, e1, e2, fun hx => e3 (fun hS => hx ⟨hS, hne⟩)⟩
  · rw [putState_descrs, putState_ctx]; exact hw.cRef

theorem WFm.putCtx {S C : Handle → Prop} {t : Tables} (hw : WFm S C t) {h : Handle} {n : Option CState} (hn : ∀ x ∈ n, x.h = h)
    (hd : ∀ x ∈ n, ∃ d ∈ t.descrs, d.handle = x.dh ∧ d.kind = .context ∧ d.ver = x.dv) :
    WFm S (fun x => C x ∧ x ≠ h) (putCtx t h n) := by
  refine ⟨(putCtx_descrs t h n).symm ▸ hw.dKeys, (putCtx_states t h n).symm ▸ hw.sKeys, putCtx_cKeys hw.cKeys hn,
    ?_, ?_, (putCtx_descrs t h n).symm ▸ hw.parent⟩
  · rw [putCtx_descrs, putCtx_states]; exact hw.sRef
  · intro c hc
    rw [putCtx_descrs]
    rcases mem_putCtx hc with e | ⟨hc, hne⟩
    · obtain ⟨d, hd, e1, e2, e3⟩ := hd c e.symm
      exact ⟨d, hd, e1, e2, fun _ => e3⟩
    · obtain ⟨d, hd, e1, e2, e3⟩ := hw.cRef c hc
      exact ⟨d, hd, e1, e2, fun hx => e3 (fun hC => hx ⟨hC, hne⟩)⟩

theorem applySItems_wfm {S C : Handle → Prop} {t : Tables} {items : List (Handle × SItem)} (hw : WFm S C t) (hi : SItemsOK t items)
    (hk : ∀ p ∈ items, p.2.new.kind ≠ .context ∧ ∀ d ∈ t.descrs, d.handle = p.1 → d.kind ≠ .context) :
    WFm (fun x => S x ∧ x ∉ items.map (·.1)) C (applySItems t items).1 := by
  induction items generalizing t S with
  | nil => exact hw.mono (fun x hx => ⟨hx, List.not_mem_nil⟩) (fun _ h => h)
  | cons p rest ih =>
    obtain ⟨h, it⟩ := p
    rw [applySItems_cons hi]
    obtain ⟨d, hd, e1, e2⟩ := hi.head.ref
    have hk0 := hk (h, it) (List.mem_cons_self ..)
    refine (ih (hw.putState hi.head.dh hk0.1 ⟨d, hd, e1, hk0.2 d hd e1, e2⟩) hi.tail
      (fun p hp => (putState_descrs t h it.new).symm ▸ hk p (List.mem_cons_of_mem _ hp))).mono ?_ (fun _ h => h)
    intro x ⟨⟨hS, hne⟩, hx⟩
    exact ⟨hS, fun hm => (List.mem_cons.1 hm).elim hne hx⟩

theorem applyCItems_wfm {S C : Handle → Prop} {t : Tables} {items : List (Handle × CItem)} (hw : WFm S C t) (hi : CItemsOK true t items)
    (hk : ∀ p ∈ items, ∀ n ∈ p.2.new, ∀ d ∈ t.descrs, d.handle = n.dh → d.kind = .context) :
    WFm S (fun x => C x ∧ x ∉ items.map (·.1)) (applyCItems t items).1 := by
  induction items generalizing t C with
  | nil => exact hw.mono (fun _ h => h) (fun x hx => ⟨hx, List.not_mem_nil⟩)
  | cons p rest ih =>
    obtain ⟨h, it⟩ := p
    have hh := hi.head.h
    rw [applyCItems_cons hh (hi.exact (h, it) (List.mem_cons_self ..))]
    have hput : WFm S (fun x => C x ∧ x ≠ h) (putCtx t h it.new) := by
      refine hw.putCtx hh ?_
      intro x hx
      obtain ⟨d, hd, e1, e2⟩ := hi.head.ref x hx
      exact ⟨d, hd, e1, hk (h, it) (List.mem_cons_self ..) x hx d hd e1, e2⟩
    refine (ih hput hi.tail (fun p hp => (putCtx_descrs t h it.new).symm ▸ hk p (List.mem_cons_of_mem _ hp))).mono (fun _ h => h) ?_
    intro x ⟨⟨hC, hne⟩, hx⟩
    exact ⟨hC, fun hm => (List.mem_cons.1 hm).elim hne hx⟩

end Sdc.Mdib
