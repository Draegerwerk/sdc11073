import SdcModel.Proofs.MdibWF
import SdcModel.Proofs.MdibVer
/-!
# State and context transactions

The calls of a script assign items to the transaction's dict (`sCall_reach`, `cCall_reach`: where an item can come from);
the commit applies the items one by one, each a `putState` / `putCtx` step (`applySItems_cons`, `applyCItems_cons`);
`runS_spec` / `runC_spec` say what a script returns. Everything else follows from these: the commit cannot fail, keeps
`WF` and `KOK`, and no version counter goes down.
-/
namespace Sdc.Mdib

/-- what `applySItems` needs of an item list over the tables `t` -/
structure SItemsOK (t : Tables) (items : List (Handle × SItem)) : Prop where
  keys : (items.map (·.1)).Nodup
  dh : ∀ p ∈ items, p.2.new.dh = p.1
  old : ∀ p ∈ items, p.2.old = findS t p.1
  ref : ∀ p ∈ items, ∃ d ∈ t.descrs, d.handle = p.1 ∧ d.ver = p.2.new.dv
  bump : ∀ p ∈ items, (∀ o, findS t p.1 = some o → o.sv < p.2.new.sv) ∧
    (findS t p.1 = none → savedGet t.sSaved p.1 ≤ some p.2.new.sv)

/-- what `SItemsOK` says of one item (`sItemsOK_iff`); the list form keeps its five fields because the descriptor commit builds it
    field by field -/
structure SItemOK (t : Tables) (p : Handle × SItem) : Prop where
  dh : p.2.new.dh = p.1
  old : p.2.old = findS t p.1
  ref : ∃ d ∈ t.descrs, d.handle = p.1 ∧ d.ver = p.2.new.dv
  bump : (∀ o, findS t p.1 = some o → o.sv < p.2.new.sv) ∧ (findS t p.1 = none → savedGet t.sSaved p.1 ≤ some p.2.new.sv)

theorem sItemsOK_iff {t : Tables} {items : List (Handle × SItem)} :
    SItemsOK t items ↔ (items.map (·.1)).Nodup ∧ ∀ p ∈ items, SItemOK t p :=
  ⟨fun h => ⟨h.keys, fun p hp => ⟨h.dh p hp, h.old p hp, h.ref p hp, h.bump p hp⟩⟩,
   fun h => ⟨h.1, fun p hp => (h.2 p hp).dh, fun p hp => (h.2 p hp).old, fun p hp => (h.2 p hp).ref, fun p hp => (h.2 p hp).bump⟩⟩

theorem SItemsOK.nil (t : Tables) : SItemsOK t [] :=
  sItemsOK_iff.2 ⟨List.nodup_nil, fun _ hp => nomatch hp⟩

theorem SItemsOK.head {t : Tables} {p : Handle × SItem} {rest : List (Handle × SItem)} (hi : SItemsOK t (p :: rest)) :
    SItemOK t p := (sItemsOK_iff.1 hi).2 p (List.mem_cons_self ..)

theorem SItemsOK.of_ver {t : Tables} {items : List (Handle × SItem)} (hi : SItemsOK t items) (v : Nat) :
    SItemsOK { t with ver := v } items := ⟨hi.keys, hi.dh, hi.old, hi.ref, hi.bump⟩

theorem SItemOK.put {t : Tables} {p : Handle × SItem} (hp : SItemOK t p) {h : Handle} {n : SState} (hn : n.dh = h)
    (hne : p.1 ≠ h) : SItemOK (putState t h n) p :=
  ⟨hp.dh, (findS_putState_ne t hn hne).symm ▸ hp.old, (putState_descrs t h n).symm ▸ hp.ref, by
    rw [findS_putState_ne t hn hne, putState_sSaved, sSaved_rmState_ne t hne]; exact hp.bump⟩

theorem SItemsOK.put {t : Tables} {items : List (Handle × SItem)} (hi : SItemsOK t items) {h : Handle} {n : SState} (hn : n.dh = h)
    (hne : ∀ p ∈ items, p.1 ≠ h) : SItemsOK (putState t h n) items :=
  sItemsOK_iff.2 ⟨hi.keys, fun p hp => ((sItemsOK_iff.1 hi).2 p hp).put hn (hne p hp)⟩

theorem SItemsOK.tail {t : Tables} {h : Handle} {it : SItem} {rest : List (Handle × SItem)}
    (hi : SItemsOK t ((h, it) :: rest)) : SItemsOK (putState t h it.new) rest := by
  have hk := List.nodup_cons.1 hi.keys
  have hr : SItemsOK t rest := sItemsOK_iff.2 ⟨hk.2, fun p hp => (sItemsOK_iff.1 hi).2 p (List.mem_cons_of_mem _ hp)⟩
  exact hr.put hi.head.dh (fun p hp e => hk.1 (List.mem_map.2 ⟨p, hp, e⟩))

theorem SItemsOK.sub {t : Tables} {L L' : List (Handle × SItem)} (h : SItemsOK t L) (hs : L'.Sublist L) : SItemsOK t L' :=
  sItemsOK_iff.2 ⟨(hs.map _).nodup h.keys, fun p hp => (sItemsOK_iff.1 h).2 p (hs.subset hp)⟩

theorem SItemsOK.congr {t t' : Tables} {items : List (Handle × SItem)} (hi : SItemsOK t items)
    (h1 : t'.states = t.states) (h2 : t'.sSaved = t.sSaved) (h3 : t'.descrs = t.descrs) : SItemsOK t' items := by
  have hf := findS_congr h1
  refine ⟨hi.keys, hi.dh, ?_, ?_, ?_⟩
  · intro p hp; rw [hf]; exact hi.old p hp
  · intro p hp; rw [h3]; exact hi.ref p hp
  · intro p hp; rw [hf, h2]; exact hi.bump p hp

theorem applySItems_cons {t : Tables} {h : Handle} {it : SItem} {rest : List (Handle × SItem)}
    (hi : SItemsOK t ((h, it) :: rest)) :
    applySItems t ((h, it) :: rest) =
      ((applySItems (putState t h it.new) rest).1, it.new :: (applySItems (putState t h it.new) rest).2.1,
       (applySItems (putState t h it.new) rest).2.2) := by
  have hdh : it.new.dh = h := hi.head.dh
  rw [applySItems, (hi.head.old : it.old = findS t h)]
  cases hf : findS t h with
  | none =>
    have := addState_rmState t hdh
    rw [rmState_of_none hf] at this
    simp only [this]
  | some o => simp only [(findS_some hf).1, addState_rmState t hdh]

theorem applySItems_inv {I : Tables → List (Handle × SItem) → Prop}
    (step : ∀ t h it rest, SItemsOK t ((h, it) :: rest) → I t ((h, it) :: rest) → I (putState t h it.new) rest)
    {t : Tables} {items : List (Handle × SItem)} (hi : SItemsOK t items) (h0 : I t items) : I (applySItems t items).1 [] := by
  induction items generalizing t with
  | nil => exact h0
  | cons p rest ih =>
    obtain ⟨h, it⟩ := p
    rw [applySItems_cons hi]
    exact ih hi.tail (step t h it rest hi h0)

theorem SItemsOK.after {t : Tables} {items m : List (Handle × SItem)} (hi : SItemsOK t items) (hm : SItemsOK t m)
    (hne : ∀ p ∈ items, p.1 ∉ m.map (·.1)) : SItemsOK (applySItems t m).1 items :=
  (applySItems_inv (I := fun t l => SItemsOK t items ∧ ∀ p ∈ items, ∀ q ∈ l, p.1 ≠ q.1)
    (fun _ _ _ _ hm hI =>
      ⟨hI.1.put hm.head.dh (fun p hp => hI.2 p hp _ (List.mem_cons_self ..)),
       fun p hp q hq => hI.2 p hp q (List.mem_cons_of_mem _ hq)⟩)
    hm ⟨hi, fun p hp q hq e => hne p hp (List.mem_map.2 ⟨q, hq, e.symm⟩)⟩).1

theorem applySItems_noerr {t : Tables} {items : List (Handle × SItem)} (hi : SItemsOK t items) : (applySItems t items).2.2 = none := by
  induction items generalizing t with
  | nil => rfl
  | cons p rest ih => obtain ⟨h, it⟩ := p; rw [applySItems_cons hi]; exact ih hi.tail

theorem applySItems_seenS {t : Tables} {items : List (Handle × SItem)} (hi : SItemsOK t items) (x : Handle) :
    seenS t x ≤ seenS (applySItems t items).1 x := by
  refine applySItems_inv (I := fun t' _ => seenS t x ≤ seenS t' x) (fun t h it _ hi hI => optLe_trans hI ?_) hi (optLe_refl _)
  have hi := hi.head
  by_cases e : x = h
  · subst e
    rw [seenS_putState_self t hi.dh, seenS]
    cases hf : findS t x with
    | none => exact hi.bump.2 hf
    | some o => exact Option.some_le_some.2 (Nat.le_of_lt (hi.bump.1 o hf))
  · rw [seenS_putState_ne t hi.dh e]; exact optLe_refl _

theorem applySItems_findS {t : Tables} {items : List (Handle × SItem)} (hi : SItemsOK t items) (h : Handle) :
    findS (applySItems t items).1 h = match dictGet items h with | some it => some it.new | none => findS t h := by
  induction items generalizing t with
  | nil => rfl
  | cons p rest ih =>
    obtain ⟨h0, it⟩ := p
    rw [applySItems_cons hi, ih hi.tail, dictGet_cons]
    by_cases e : h0 = h
    · subst e
      rw [dictGet_none_iff.2 (List.nodup_cons.1 hi.keys).1, if_pos rfl]
      exact findS_putState_self t hi.head.dh
    · rw [if_neg e, findS_putState_ne t hi.head.dh (Ne.symm e)]

/-- how the state call `c` of a transaction of kind `k` comes by the item it assigns to key `h`: a copy of the live state
    with the next StateVersion (`get`), a changed copy of the item's new state (`setBody`), a state with the descriptor's
    version and a StateVersion that continues the live or the saved one (`write`) -/
inductive SItemFrom (t : Tables) (k : Kind) (c : SCall) (items : List (Handle × SItem)) (h : Handle) : SItem → Prop
  | fetched {s : SState} (hs : findS t h = some s) (hk : s.kind = k) :
      SItemFrom t k c items h ⟨some s, { s with sv := s.sv + 1 }⟩
  | edited {it : SItem} (b : Nat) (hm : (h, it) ∈ items) : SItemFrom t k c items h { it with new := { it.new with body := b } }
  | written {d : Descr} {sv0 sv b : Nat} (hc : c = .write h k sv0 b false) (hd : findD t h = some d)
      (hsv : (∀ o, findS t h = some o → o.sv < sv) ∧ (findS t h = none → savedGet t.sSaved h ≤ some sv)) :
      SItemFrom t k c items h ⟨findS t h, ⟨h, d.ver, sv, k, b⟩⟩

theorem sCall_reach {t : Tables} {tx tx' : STx} {c : SCall} (h : sCall t tx c = .ok tx') :
    tx'.kind = tx.kind ∧ DictReach (SItemFrom t tx.kind c) tx.items tx'.items := by
  cases c with
  | get h0 =>
    rw [sCall] at h
    by_cases h1 : (dictGet tx.items h0).isSome = true
    · rw [if_pos h1] at h; cases h
    rw [if_neg h1] at h
    cases hs : findS t h0 with
    | none => rw [hs] at h; cases h
    | some s =>
      rw [hs] at h
      by_cases hk : (s.kind != tx.kind) = true
      · simp only [hk, if_true] at h; cases h
      simp only [hk] at h
      cases h
      refine ⟨rfl, .set ?_ (.refl _)⟩
      exact .fetched hs (by simpa using hk)
  | unget h0 => cases h; exact ⟨rfl, .del h0 (.refl _)⟩
  | setBody h0 b =>
    rw [sCall] at h
    cases hg : dictGet tx.items h0 with
    | none => rw [hg] at h; cases h
    | some it =>
      rw [hg] at h; cases h
      refine ⟨rfl, .set ?_ (.refl _)⟩
      exact .edited b (dictGet_some_mem hg)
  | write h0 kind sv b multi =>
    rw [sCall] at h
    cases multi with
    | true => cases h
    | false =>
      by_cases hk : (kind != tx.kind) = true
      · simp only [hk, if_true, Bool.false_eq_true, if_false] at h; cases h
      have hk' : kind = tx.kind := by simpa using hk
      subst hk'
      cases hd : findD t h0 with
      | none => simp only [hk, hd, Bool.false_eq_true, if_false] at h; cases h
      | some d =>
        simp only [hk, hd, Bool.false_eq_true, if_false] at h
        cases h
        refine ⟨rfl, .set ?_ (.refl _)⟩
        refine .written rfl hd ⟨?_, ?_⟩
        · intro o ho; simp only [ho]; exact Nat.lt_succ_self _
        · intro ho; simp only [ho]
          cases savedGet t.sSaved h0 with
          | none => exact Option.none_le
          | some v => exact Option.some_le_some.2 (Nat.le_succ v)

theorem SItemFrom.ok {t : Tables} (hw : WF t) {k : Kind} {c : SCall} {l : List (Handle × SItem)} {h : Handle} {it : SItem}
    (hl : ∀ p ∈ l, SItemOK t p) (hi : SItemFrom t k c l h it) : SItemOK t (h, it) := by
  cases hi with
  | @fetched s hs hk =>
    have hs' := findS_some hs
    obtain ⟨d, hd, e1, e2⟩ := hw.sRef s hs'.2
    exact ⟨hs'.1, hs.symm, ⟨d, hd, e1.trans hs'.1, e2⟩, fun o ho => Option.some.inj (hs.symm.trans ho) ▸ Nat.lt_succ_self _,
      fun ho => nomatch hs.symm.trans ho⟩
  | @edited it0 b hm => exact ⟨(hl _ hm).dh, (hl _ hm).old, (hl _ hm).ref, (hl _ hm).bump⟩
  | @written d sv0 sv b hc hd hsv => exact ⟨rfl, rfl, ⟨d, (findD_some hd).2, (findD_some hd).1, rfl⟩, hsv⟩

theorem sCalls_ok {t : Tables} (hw : WF t) {s : SScript} {tx : STx}
    (h : runCalls (sCall t) s.catchErrors { kind := s.kind } s.calls = .ok tx) : SItemsOK t tx.items :=
  runCalls_inv (fun tx : STx => SItemsOK t tx.items)
    (fun _ _ _ hp hc => sItemsOK_iff.2 ⟨(sCall_reach hc).2.keys_nodup hp.keys,
      (sCall_reach hc).2.forall (fun _ _ _ hl hv => hv.ok hw hl) (sItemsOK_iff.1 hp).2⟩) _ _ _ _ (SItemsOK.nil t) h

theorem commitS_of_ne {t : Tables} {tx : STx} (h : tx.items.isEmpty = false) :
    commitS t tx = ((applySItems { t with ver := t.ver + 1 } tx.items).1,
      ({} : TxResult).putStates tx.kind (applySItems { t with ver := t.ver + 1 } tx.items).2.1,
      (applySItems { t with ver := t.ver + 1 } tx.items).2.2) := by
  rw [commitS, h]; rfl

theorem commitS_empty {t : Tables} {tx : STx} (h : tx.items.isEmpty = true) : commitS t tx = (t, {}, none) := by
  rw [commitS, if_pos h]

theorem runS_cases {t : Tables} {s : SScript} {P : Tables × TxResult × Outcome → Prop} (h1 : P (t, {}, .rejected))
    (h2 : s.raiseAtEnd = true → P (t, {}, .aborted))
    (h3 : ∀ tx e, runCalls (sCall t) s.catchErrors { kind := s.kind } s.calls = .ok tx → s.raiseAtEnd = false →
      (commitS t tx).2.2 = some e → P ((commitS t tx).1, {}, .commitFailed))
    (h4 : ∀ tx, runCalls (sCall t) s.catchErrors { kind := s.kind } s.calls = .ok tx → s.raiseAtEnd = false →
      (commitS t tx).2.2 = none →
      P ((commitS t tx).1, (commitS t tx).2.1, if tx.items.isEmpty then .empty else .committed)) : P (runS t s) := by
  unfold runS
  cases htx : runCalls (sCall t) s.catchErrors { kind := s.kind } s.calls with
  | error e => exact h1
  | ok tx =>
    dsimp only
    cases ha : s.raiseAtEnd with
    | true => exact h2 ha
    | false =>
      have a := h3 tx; have b := h4 tx htx ha
      generalize commitS t tx = r at a b
      obtain ⟨t', r, _ | e⟩ := r
      · exact b rfl
      · exact a e htx ha rfl

theorem runS_spec (t : Tables) (s : SScript) :
    (∃ o, runS t s = (t, {}, o) ∧ (o = .rejected ∨ o = .aborted ∨ o = .empty)) ∨
    ∃ tx, runCalls (sCall t) s.catchErrors { kind := s.kind } s.calls = .ok tx ∧ s.raiseAtEnd = false ∧
      tx.items.isEmpty = false ∧
      (((commitS t tx).2.2 = none ∧ runS t s = ((commitS t tx).1, (commitS t tx).2.1, .committed)) ∨
       ((commitS t tx).2.2 ≠ none ∧ runS t s = ((commitS t tx).1, {}, .commitFailed))) := by
  refine runS_cases (P := fun r => runS t s = r → _) (fun e => .inl ⟨_, e, .inl rfl⟩) (fun _ e => .inl ⟨_, e, .inr (.inl rfl)⟩)
    (fun tx e htx hr he eq => ?_) (fun tx htx hr he eq => ?_) rfl
  · refine .inr ⟨tx, htx, hr, Bool.eq_false_iff.2 (fun hE => ?_), .inr ⟨by rw [he]; nofun, eq⟩⟩
    rw [commitS_empty hE] at he; cases he
  · cases hE : tx.items.isEmpty with
    | true => rw [hE, commitS_empty hE] at eq; exact .inl ⟨_, eq, .inr (.inr rfl)⟩
    | false => rw [hE] at eq; exact .inr ⟨tx, htx, hr, hE, .inl ⟨he, eq⟩⟩

theorem runS_tables {t : Tables} (hw : WF t) (s : SScript) :
    (runS t s).1 = t ∨ ∃ tx : STx, runCalls (sCall t) s.catchErrors { kind := s.kind } s.calls = .ok tx ∧
      SItemsOK { t with ver := t.ver + 1 } tx.items ∧ (runS t s).1 = (applySItems { t with ver := t.ver + 1 } tx.items).1 := by
  rcases runS_spec t s with ⟨o, e, _⟩ | ⟨tx, htx, _, hne, ⟨_, e⟩ | ⟨_, e⟩⟩
  · exact .inl (congrArg Prod.fst e)
  · exact .inr ⟨tx, htx, (sCalls_ok hw htx).of_ver _, (congrArg Prod.fst e).trans (congrArg Prod.fst (commitS_of_ne hne))⟩
  · exact .inr ⟨tx, htx, (sCalls_ok hw htx).of_ver _, (congrArg Prod.fst e).trans (congrArg Prod.fst (commitS_of_ne hne))⟩

theorem runS_ok {t : Tables} (hw : WF t) (s : SScript) : (runS t s).2.2 ≠ .commitFailed ∧ WF (runS t s).1 := by
  refine ⟨?_, ?_⟩
  · rcases runS_spec t s with ⟨o, e, ho⟩ | ⟨tx, htx, _, hne, ⟨_, e⟩ | ⟨herr, _⟩⟩
    · rw [e]; rcases ho with rfl | rfl | rfl <;> nofun
    · rw [e]; nofun
    · rw [commitS_of_ne hne] at herr
      exact absurd (applySItems_noerr ((sCalls_ok hw htx).of_ver _)) herr
  · rcases runS_tables hw s with e | ⟨tx, _, hi, e⟩
    · rw [e]; exact hw
    · rw [e]; exact applySItems_inv (I := fun t _ => WF t) (fun _ _ _ _ hi hw => hw.putState hi.head.dh hi.head.ref) hi (hw.of_ver _)

theorem runS_seenS {t : Tables} (hw : WF t) (s : SScript) (h : Handle) : seenS t h ≤ seenS (runS t s).1 h := by
  rcases runS_tables hw s with e | ⟨tx, _, hi, e⟩
  · rw [e]; exact optLe_refl _
  · rw [e]; exact applySItems_seenS hi h

theorem runS_change {t : Tables} (hw : WF t) (s : SScript) {h : Handle} {a b : SState}
    (ha : findS t h = some a) (hb : findS (runS t s).1 h = some b) : a = b ∨ a.sv < b.sv := by
  rcases runS_tables hw s with e | ⟨tx, _, hi, e⟩
  · rw [e, ha] at hb; exact .inl (Option.some.inj hb)
  · rw [e, applySItems_findS hi] at hb
    cases hg : dictGet tx.items h with
    | none => rw [hg] at hb; exact .inl (Option.some.inj (ha.symm.trans hb))
    | some it =>
      rw [hg] at hb
      exact .inr (Option.some.inj hb ▸ (hi.bump (h, it) (dictGet_some_mem hg)).1 a ha)

theorem runS_frame (t : Tables) (s : SScript) : FrS (runS t s).1 t := by
  rcases runS_spec t s with ⟨o, e, _⟩ | ⟨tx, _, _, hne, ⟨_, e⟩ | ⟨_, e⟩⟩
  · rw [e]; exact ⟨rfl, rfl, rfl, rfl⟩
  · rw [e, commitS_of_ne hne]; exact applySItems_frame _ _
  · rw [e, commitS_of_ne hne]; exact applySItems_frame _ _

/-- the script writes no single state of the context kind and none to a context descriptor (`write_entity` of a
    `MultiStateEntity` is rejected by the real state transactions: `multi = true`) -/
def sCallKindOK (t : Tables) : SCall → Bool
  | .write h _ _ _ false => decide (∀ d ∈ findD t h, d.kind ≠ .context)
  | _ => true

def SKindOK (t : Tables) (s : SScript) : Prop := s.kind ≠ .context ∧ ∀ c ∈ s.calls, sCallKindOK t c = true

instance (t : Tables) (s : SScript) : Decidable (SKindOK t s) := by unfold SKindOK; infer_instance

theorem SItemFrom.kind {t : Tables} (hw : WF t) (hk : KOK t) {k : Kind} (hkk : k ≠ .context) {c : SCall} (hc : sCallKindOK t c = true)
    {l : List (Handle × SItem)} {h : Handle} {it : SItem}
    (hl : ∀ p ∈ l, p.2.new.kind ≠ .context ∧ ∀ d ∈ t.descrs, d.handle = p.1 → d.kind ≠ .context)
    (hi : SItemFrom t k c l h it) : it.new.kind ≠ .context ∧ ∀ d ∈ t.descrs, d.handle = h → d.kind ≠ .context := by
  cases hi with
  | @fetched s hs _ =>
    have hs' := findS_some hs
    exact ⟨hk.kS s hs'.2, fun d hd e => hk.kSD s hs'.2 d hd (e.trans hs'.1.symm)⟩
  | @edited it0 b hm => exact hl (h, it0) hm
  | @written d sv0 sv b hcw hd _ =>
    refine ⟨hkk, fun d' hd' e => ?_⟩
    -- the descriptor in the table is the one the call looked up
    have : d' = d := Option.some.inj ((hw.findD_of_mem hd').symm.trans (e ▸ hd))
    rw [hcw, sCallKindOK, decide_eq_true_eq] at hc
    exact this ▸ hc d hd

theorem sCalls_kind {t : Tables} (hw : WF t) (hk : KOK t) {s : SScript} (hs : SKindOK t s) {tx : STx}
    (h : runCalls (sCall t) s.catchErrors { kind := s.kind } s.calls = .ok tx) :
    ∀ p ∈ tx.items, p.2.new.kind ≠ .context ∧ ∀ d ∈ t.descrs, d.handle = p.1 → d.kind ≠ .context :=
  (runCalls_inv_of
    (fun tx : STx => tx.kind = s.kind ∧ ∀ p ∈ tx.items, p.2.new.kind ≠ .context ∧ ∀ d ∈ t.descrs, d.handle = p.1 → d.kind ≠ .context)
    (fun c => sCallKindOK t c = true)
    (fun _ _ _ hg hp hc =>
      ⟨(sCall_reach hc).1.trans hp.1, (sCall_reach hc).2.forall (fun _ _ _ hl hv => hv.kind hw hk (hp.1 ▸ hs.1) hg hl) hp.2⟩)
    s.catchErrors s.calls { kind := s.kind } tx hs.2 ⟨rfl, fun _ hp => nomatch hp⟩ h).2

theorem runS_kok {t : Tables} (hw : WF t) (hk : KOK t) (s : SScript) (hs : SKindOK t s) : KOK (runS t s).1 := by
  rcases runS_tables hw s with e | ⟨tx, htx, hi, e⟩
  · rw [e]; exact hk
  · rw [e]
    exact (applySItems_inv
      (I := fun t l => KOK t ∧ ∀ p ∈ l, p.2.new.kind ≠ .context ∧ ∀ d ∈ t.descrs, d.handle = p.1 → d.kind ≠ .context)
      (fun t h it _ hi hI =>
        ⟨hI.1.putState hi.head.dh (hI.2 _ (List.mem_cons_self ..)).1 (hI.2 _ (List.mem_cons_self ..)).2,
         fun p hp => (putState_descrs t h it.new).symm ▸ hI.2 p (List.mem_cons_of_mem _ hp)⟩)
      hi ⟨hk.of_ver _, sCalls_kind hw hk hs htx⟩).1

/-- what `applyCItems` needs of an item list over `t`; `strict = false` also allows items `(None, new)` for a handle that is
    in the table (a `mk_context_state` whose generated uuid collides) -/
structure CItemsOK (strict : Bool) (t : Tables) (items : List (Handle × CItem)) : Prop where
  keys : (items.map (·.1)).Nodup
  h : ∀ p ∈ items, ∀ n ∈ p.2.new, n.h = p.1
  old : ∀ p ∈ items, p.2.old = findC t p.1 ∨ (strict = false ∧ p.2.old = none)
  ref : ∀ p ∈ items, ∀ n ∈ p.2.new, ∃ d ∈ t.descrs, d.handle = n.dh ∧ d.ver = n.dv
  bump : strict = true → ∀ p ∈ items, ∀ n ∈ p.2.new, (∀ o, findC t p.1 = some o → o.sv < n.sv) ∧
    (findC t p.1 = none → savedGet t.cSaved p.1 ≤ some n.sv)

/-- what `CItemsOK` says of one item (`cItemsOK_iff`); the list form stays for the same reason as `SItemsOK` -/
structure CItemOK (strict : Bool) (t : Tables) (p : Handle × CItem) : Prop where
  h : ∀ n ∈ p.2.new, n.h = p.1
  old : p.2.old = findC t p.1 ∨ (strict = false ∧ p.2.old = none)
  ref : ∀ n ∈ p.2.new, ∃ d ∈ t.descrs, d.handle = n.dh ∧ d.ver = n.dv
  bump : strict = true → ∀ n ∈ p.2.new, (∀ o, findC t p.1 = some o → o.sv < n.sv) ∧
    (findC t p.1 = none → savedGet t.cSaved p.1 ≤ some n.sv)

theorem cItemsOK_iff {strict : Bool} {t : Tables} {items : List (Handle × CItem)} :
    CItemsOK strict t items ↔ (items.map (·.1)).Nodup ∧ ∀ p ∈ items, CItemOK strict t p :=
  ⟨fun h => ⟨h.keys, fun p hp => ⟨h.h p hp, h.old p hp, h.ref p hp, fun hs => h.bump hs p hp⟩⟩,
   fun h => ⟨h.1, fun p hp => (h.2 p hp).h, fun p hp => (h.2 p hp).old, fun p hp => (h.2 p hp).ref,
     fun hs p hp => (h.2 p hp).bump hs⟩⟩

theorem CItemsOK.nil (strict : Bool) (t : Tables) : CItemsOK strict t [] :=
  cItemsOK_iff.2 ⟨List.nodup_nil, fun _ hp => nomatch hp⟩

theorem CItemsOK.head {strict : Bool} {t : Tables} {p : Handle × CItem} {rest : List (Handle × CItem)}
    (hi : CItemsOK strict t (p :: rest)) : CItemOK strict t p := (cItemsOK_iff.1 hi).2 p (List.mem_cons_self ..)

theorem CItemsOK.exact {t : Tables} {items : List (Handle × CItem)} (hi : CItemsOK true t items) :
    ∀ p ∈ items, p.2.old = findC t p.1 :=
  fun p hp => (hi.old p hp).resolve_right (fun h => nomatch h.1)

theorem CItemsOK.of_ver {strict : Bool} {t : Tables} {items : List (Handle × CItem)} (hi : CItemsOK strict t items) (v : Nat) :
    CItemsOK strict { t with ver := v } items := ⟨hi.keys, hi.h, hi.old, hi.ref, hi.bump⟩

theorem CItemsOK.congr {strict : Bool} {t t' : Tables} {items : List (Handle × CItem)} (hi : CItemsOK strict t items)
    (h1 : t'.ctx = t.ctx) (h2 : t'.cSaved = t.cSaved) (h3 : t'.descrs = t.descrs) : CItemsOK strict t' items := by
  have hf := findC_congr h1
  refine ⟨hi.keys, hi.h, ?_, ?_, ?_⟩
  · intro p hp; rw [hf]; exact hi.old p hp
  · intro p hp; rw [h3]; exact hi.ref p hp
  · intro hs p hp; rw [hf, h2]; exact hi.bump hs p hp

theorem CItemsOK.tail_same {strict : Bool} {t : Tables} {p : Handle × CItem} {rest : List (Handle × CItem)}
    (hi : CItemsOK strict t (p :: rest)) : CItemsOK strict t rest :=
  cItemsOK_iff.2 ⟨(List.nodup_cons.1 hi.keys).2, fun p hp => (cItemsOK_iff.1 hi).2 p (List.mem_cons_of_mem _ hp)⟩

theorem CItemOK.put {strict : Bool} {t : Tables} {p : Handle × CItem} (hp : CItemOK strict t p) {h : Handle} {n : Option CState}
    (hn : ∀ x ∈ n, x.h = h) (hne : p.1 ≠ h) : CItemOK strict (putCtx t h n) p :=
  ⟨hp.h, (findC_putCtx_ne t hn hne).symm ▸ hp.old, (putCtx_descrs t h n).symm ▸ hp.ref, by
    rw [findC_putCtx_ne t hn hne, putCtx_cSaved, cSaved_rmCtx_ne t hne]; exact hp.bump⟩

theorem CItemsOK.tail {strict : Bool} {t : Tables} {h : Handle} {it : CItem} {rest : List (Handle × CItem)}
    (hi : CItemsOK strict t ((h, it) :: rest)) : CItemsOK strict (putCtx t h it.new) rest :=
  cItemsOK_iff.2 ⟨hi.tail_same.keys, fun p hp => ((cItemsOK_iff.1 hi.tail_same).2 p hp).put hi.head.h
    (fun e => (List.nodup_cons.1 hi.keys).1 (List.mem_map.2 ⟨p, hp, e⟩))⟩

theorem applyCItems_cons {t : Tables} {h : Handle} {it : CItem} {rest : List (Handle × CItem)}
    (hh : ∀ n ∈ it.new, n.h = h) (hold : it.old = findC t h) :
    applyCItems t ((h, it) :: rest) =
      ((applyCItems (putCtx t h it.new) rest).1,
       (match it.new with | none => [] | some n => [n]) ++ (applyCItems (putCtx t h it.new) rest).2.1,
       (applyCItems (putCtx t h it.new) rest).2.2) := by
  rw [applyCItems, hold]
  cases hf : findC t h with
  | none =>
    cases hn : it.new with
    | none => simp only [putCtx, rmCtx_of_none hf, List.nil_append]
    | some n =>
      have := addCtx_rmCtx t (hh n hn)
      rw [rmCtx_of_none hf] at this
      simp only [this, List.singleton_append]
  | some o =>
    simp only [(findC_some hf).1]
    cases hn : it.new with
    | none => simp only [putCtx, List.nil_append]
    | some n => simp only [addCtx_rmCtx t (hh n hn), List.singleton_append]

/-- `drop`: an item of a non-strict list may be skipped (its generated handle collides: the commit stops there, or the
    item deletes nothing) -/
theorem applyCItems_inv {strict : Bool} {I : Tables → List (Handle × CItem) → Prop}
    (step : ∀ t h it rest, CItemsOK strict t ((h, it) :: rest) → it.old = findC t h → I t ((h, it) :: rest) →
      I (putCtx t h it.new) rest)
    (drop : ∀ t p rest, I t (p :: rest) → I t rest)
    {t : Tables} {items : List (Handle × CItem)} (hi : CItemsOK strict t items) (h0 : I t items) : I (applyCItems t items).1 [] := by
  induction items generalizing t with
  | nil => exact h0
  | cons p rest ih =>
    obtain ⟨h, it⟩ := p
    have hh := hi.head.h
    by_cases hex : it.old = findC t h
    · rw [applyCItems_cons hh hex]
      exact ih hi.tail (step t h it rest hi hex h0)
    · have hold : it.old = none := (hi.head.old.resolve_left hex).2
      rw [applyCItems, hold]
      cases hn : it.new with
      | none => exact ih hi.tail_same (drop _ _ _ h0)
      | some n =>
        -- the handle is in the table: `add_object` raises
        have hf : (findC t n.h).isSome = true := by
          rw [hh n hn]
          cases hf : findC t h with
          | none => exact absurd (hold.trans hf.symm) hex
          | some c => rfl
        have : addCtx t n = .error .keyError := by rw [addCtx, if_pos hf]
        simp only [this]
        have dropAll : ∀ l, I t l → I t [] := fun l => by
          induction l with
          | nil => exact id
          | cons q l ihl => exact fun h => ihl (drop _ _ _ h)
        exact dropAll _ h0

theorem applyCItems_noerr {t : Tables} {items : List (Handle × CItem)} (hi : CItemsOK true t items) : (applyCItems t items).2.2 = none := by
  induction items generalizing t with
  | nil => rfl
  | cons p rest ih =>
    obtain ⟨h, it⟩ := p
    rw [applyCItems_cons hi.head.h (hi.exact (h, it) (List.mem_cons_self ..))]
    exact ih hi.tail

theorem applyCItems_seenC {t : Tables} {items : List (Handle × CItem)} (hi : CItemsOK true t items) (x : Handle) :
    seenC t x ≤ seenC (applyCItems t items).1 x := by
  refine applyCItems_inv (I := fun t' _ => seenC t x ≤ seenC t' x) (fun t h it _ hi _ hI => optLe_trans hI ?_)
    (fun _ _ _ h => h) hi (optLe_refl _)
  have hi := hi.head
  by_cases e : x = h
  · subst e
    rw [seenC_putCtx_self t hi.h]
    have hb := hi.bump rfl
    obtain ⟨old, new⟩ := it
    cases new with
    | none => exact optLe_refl _
    | some n =>
      rw [seenC]
      cases hf : findC t x with
      | none => exact (hb n rfl).2 hf
      | some o => exact Option.some_le_some.2 (Nat.le_of_lt ((hb n rfl).1 o hf))
  · rw [seenC_putCtx_ne t hi.h e]; exact optLe_refl _

theorem applyCItems_findC {t : Tables} {items : List (Handle × CItem)} (hi : CItemsOK true t items) (h : Handle) :
    findC (applyCItems t items).1 h = match dictGet items h with | some it => it.new | none => findC t h := by
  induction items generalizing t with
  | nil => rfl
  | cons p rest ih =>
    obtain ⟨h0, it⟩ := p
    have hh := hi.head.h
    rw [applyCItems_cons hh (hi.exact (h0, it) (List.mem_cons_self ..)), ih hi.tail, dictGet_cons]
    by_cases e : h0 = h
    · subst e
      rw [dictGet_none_iff.2 (List.nodup_cons.1 hi.keys).1, if_pos rfl]
      exact findC_putCtx_self t hh
    · rw [if_neg e, findC_putCtx_ne t hh (Ne.symm e)]

theorem applyCItems_change {t : Tables} {items : List (Handle × CItem)} (hi : CItemsOK true t items) {h : Handle} {a b : CState}
    (ha : findC t h = some a) (hb : findC (applyCItems t items).1 h = some b) : a = b ∨ a.sv < b.sv := by
  rw [applyCItems_findC hi] at hb
  cases hg : dictGet items h with
  | none => rw [hg] at hb; exact .inl (Option.some.inj (ha.symm.trans hb))
  | some it =>
    rw [hg] at hb
    exact .inr ((hi.bump rfl (h, it) (dictGet_some_mem hg) b hb).1 a ha)

/-- the uuid handed to `mk_context_state(..., handle=None)` is fresh: no live context state and no saved version has it -/
def freshCall (t : Tables) : CCall → Bool
  | .mk _ h false _ _ _ => (findC t h).isNone && (savedGet t.cSaved h).isNone
  | _ => true

def FreshUuids (t : Tables) (s : CScript) : Prop := ∀ c ∈ s.calls, freshCall t c = true
instance (t : Tables) (s : CScript) : Decidable (FreshUuids t s) := by unfold FreshUuids; infer_instance

/-- how the context call `c` comes by an item it assigns to key `h`: a copy of the live state with the next StateVersion
    (`get`, `disassociateAll`), a changed copy of the item's present new state (`setBody`, `setAssoc`), a fresh state
    (`mk`), the deletion of the live state (`del`) -/
inductive CItemFrom (t : Tables) (c : CCall) (items : List (Handle × CItem)) (h : Handle) : CItem → Prop
  | fetched {o n : CState} (ho : findC t h = some o) (hh : n.h = o.h) (hdh : n.dh = o.dh) (hdv : n.dv = o.dv)
      (hsv : n.sv = o.sv + 1) : CItemFrom t c items h ⟨some o, some n⟩
  | edited {o : Option CState} {n n' : CState} (hm : (h, ⟨o, some n⟩) ∈ items) (hh : n'.h = n.h) (hdh : n'.dh = n.dh)
      (hdv : n'.dv = n.dv) (hsv : n'.sv = n.sv) : CItemFrom t c items h ⟨o, some n'⟩
  | created {dh : Handle} {explicit assoc : Bool} {body now : Nat} {d : Descr} {n : CState}
      (hc : c = .mk dh h explicit assoc body now) (hd : findD t dh = some d) (hk : d.kind = .context)
      (hh : n.h = h) (hdh : n.dh = dh) (hdv : n.dv = d.ver)
      (hex : explicit = true → findC t h = none ∧ savedGet t.cSaved h ≤ some n.sv) (hgen : explicit = false → n.sv = 0) :
      CItemFrom t c items h ⟨none, some n⟩
  | deleted {o : CState} (hc : c = .del h) (ho : findC t h = some o) : CItemFrom t c items h ⟨some o, none⟩

theorem cGet_eq {t : Tables} {tx tx1 : CTx} {h : Handle} {c1 : CState} (hg : cGet t tx h = .ok (tx1, c1)) :
    ∃ o, findC t h = some o ∧ c1 = { o with sv := o.sv + 1 } ∧
      tx1 = { tx with items := dictSet tx.items h ⟨some o, some c1⟩ } := by
  rw [cGet] at hg
  by_cases h1 : (dictGet tx.items h).isSome = true
  · rw [if_pos h1] at hg; cases hg
  rw [if_neg h1] at hg
  cases ho : findC t h with
  | none => rw [ho] at hg; cases hg
  | some o => rw [ho] at hg; cases hg; exact ⟨o, rfl, rfl, rfl⟩

theorem ite_field {α β : Type} (f : α → β) {p : Prop} [Decidable p] {a b : α} {v : β} (ha : f a = v) (hb : f b = v) :
    f (if p then a else b) = v := by
  split <;> assumption

theorem disassocLoop_reach {t : Tables} (hn : (t.ctx.map (·.h)).Nodup) (call : CCall) (now : Nat) (ignored : Option Handle) :
    ∀ (cs : List CState) (tx tx' : CTx), (∀ c ∈ cs, c ∈ t.ctx) → disassocLoop t now ignored tx cs = .ok tx' →
      tx'.newVer = tx.newVer ∧ DictReach (CItemFrom t call) tx.items tx'.items := by
  intro cs
  induction cs with
  | nil => intro tx tx' _ h; cases h; exact ⟨rfl, .refl _⟩
  | cons c rest ih =>
    intro tx tx' hm h
    have hm' : ∀ c ∈ rest, c ∈ t.ctx := fun x hx => hm x (List.mem_cons_of_mem _ hx)
    rw [disassocLoop] at h
    by_cases h1 : (some c.h == ignored || (dictGet tx.items c.h).isSome) = true
    · rw [if_pos h1] at h; exact ih tx tx' hm' h
    rw [if_neg h1] at h
    by_cases h2 : (c.assoc != .dis || c.unbindV.isNone) = true
    · rw [if_pos h2] at h
      cases hg : cGet t tx c.h with
      | error e => rw [hg] at h; cases h
      | ok r =>
        obtain ⟨tx1, c1⟩ := r
        rw [hg] at h
        obtain ⟨o, ho, rfl, rfl⟩ := cGet_eq hg
        -- with unique keys the listed state is the one `get` fetched
        have e0 : c = o :=
          Option.some.inj ((find_of_mem_nodup (fun x : CState => x.h) hn (hm c (List.mem_cons_self ..))).symm.trans ho)
        subst e0
        obtain ⟨e, hr⟩ := ih _ tx' hm' h
        refine ⟨e, .set ?_ (.set ?_ hr)⟩
        · exact .fetched ho rfl rfl rfl rfl
        · exact .fetched ho (ite_field CState.h rfl rfl) (ite_field CState.dh rfl rfl) (ite_field CState.dv rfl rfl)
            (ite_field CState.sv rfl rfl)
    · rw [if_neg h2] at h; exact ih tx tx' hm' h

theorem cCall_reach {t : Tables} (hn : (t.ctx.map (·.h)).Nodup) {tx tx' : CTx} {c : CCall} (h : cCall t tx c = .ok tx') :
    tx'.newVer = tx.newVer ∧ DictReach (CItemFrom t c) tx.items tx'.items := by
  cases c with
  | get h0 =>
    rw [cCall] at h
    cases hg : cGet t tx h0 with
    | error e => rw [hg] at h; cases h
    | ok r =>
      obtain ⟨tx1, c1⟩ := r
      rw [hg] at h; cases h
      obtain ⟨o, ho, rfl, rfl⟩ := cGet_eq hg
      refine ⟨rfl, .set ?_ (.refl _)⟩
      exact .fetched ho rfl rfl rfl rfl
  | mk dh h0 explicit assoc body now =>
    -- the guards are named and rewritten one by one: `split at h` is slow on a result with `if`s inside its fields
    rw [cCall] at h
    by_cases h1 : (explicit && (dictGet tx.items h0).isSome) = true
    · rw [if_pos h1] at h; cases h
    rw [if_neg h1] at h
    cases hd : findD t dh with
    | none => rw [hd] at h; cases h
    | some d =>
      rw [hd] at h
      by_cases hk : (d.kind != Kind.context) = true
      · simp only [hk, if_true] at h; cases h
      by_cases hex : (explicit && (findC t h0).isSome) = true
      · simp only [hk, hex, if_true] at h; cases h
      simp only [hk, hex] at h
      cases h
      refine ⟨rfl, .set ?_ (.refl _)⟩
      refine .created rfl hd (by simpa using hk) rfl rfl rfl ?_ ?_
      · intro e; subst e
        refine ⟨by simpa using hex, ?_⟩
        simp only [if_true]
        cases savedGet t.cSaved h0 with
        | none => exact Option.none_le
        | some v => exact Option.some_le_some.2 (Nat.le_succ v)
      · intro e; subst e; rfl
  | setBody h0 b =>
    rw [cCall] at h
    split at h
    · rename_i o n hit
      cases h
      refine ⟨rfl, .set ?_ (.refl _)⟩
      exact .edited (dictGet_some_mem hit) rfl rfl rfl rfl
    · cases h
  | setAssoc h0 a =>
    rw [cCall] at h
    split at h
    · rename_i o n hit
      cases h
      refine ⟨rfl, .set ?_ (.refl _)⟩
      exact .edited (dictGet_some_mem hit) rfl rfl rfl rfl
    · cases h
  | disassociateAll dh ignored now =>
    exact disassocLoop_reach hn _ now ignored _ tx tx' (fun c hc => (List.mem_filter.1 hc).1) h
  | del h0 =>
    rw [cCall] at h
    cases ho : findC t h0 with
    | none => rw [ho] at h; cases h
    | some o => rw [ho] at h; cases h; exact ⟨rfl, .set (.deleted rfl ho) (.refl _)⟩

theorem CItemFrom.ok {strict : Bool} {t : Tables} (hw : WF t) {c : CCall} (hf : strict = true → freshCall t c = true)
    {l : List (Handle × CItem)} {h : Handle} {it : CItem} (hl : ∀ p ∈ l, CItemOK strict t p) (hi : CItemFrom t c l h it) :
    CItemOK strict t (h, it) := by
  cases hi with
  | @fetched o n ho hh hdh hdv hsv =>
    have ho' := findC_some ho
    refine ⟨forall_mem_some.2 (hh.trans ho'.1), .inl ho.symm, forall_mem_some.2 ?_, fun _ => forall_mem_some.2 ⟨?_, ?_⟩⟩
    · rw [hdh, hdv]; exact hw.cRef o ho'.2
    · intro o' e; rw [ho] at e; cases e; omega
    · intro e; rw [ho] at e; cases e
  | @edited o n n' hm hh hdh hdv hsv =>
    have h0 := hl _ hm
    refine ⟨forall_mem_some.2 (hh.trans (h0.h n rfl)), h0.old, forall_mem_some.2 ?_, fun hs => forall_mem_some.2 ?_⟩
    · rw [hdh, hdv]; exact h0.ref n rfl
    · rw [hsv]; exact h0.bump hs n rfl
  | @created dh explicit assoc body now d n hc hd hk hh hdh hdv hex hgen =>
    have hd' := findD_some hd
    -- no live state has the handle, and what was saved for it is not above the new version
    have key : strict = true → findC t h = none ∧ savedGet t.cSaved h ≤ some n.sv := by
      intro hs
      cases explicit with
      | true => exact hex rfl
      | false =>
        have := hf hs
        simp only [hc, freshCall, Bool.and_eq_true, Option.isNone_iff_eq_none] at this
        rw [this.2]; exact ⟨this.1, Option.none_le⟩
    refine ⟨forall_mem_some.2 hh, ?_, forall_mem_some.2 ⟨d, hd'.2, hd'.1.trans hdh.symm, hdv.symm⟩,
      fun hs => forall_mem_some.2 ⟨?_, fun _ => (key hs).2⟩⟩
    · cases strict with
      | false => exact .inr ⟨rfl, rfl⟩
      | true => exact .inl (key rfl).1.symm
    · intro o e; rw [(key hs).1] at e; cases e
  | @deleted o _ ho =>
    refine ⟨?_, .inl ho.symm, ?_, fun _ => ?_⟩ <;> (intro _ hn; cases hn)

theorem cCall_ok {strict : Bool} {t : Tables} (hw : WF t) {tx tx' : CTx} {c : CCall} (hf : strict = true → freshCall t c = true)
    (hi : CItemsOK strict t tx.items) (h : cCall t tx c = .ok tx') : CItemsOK strict t tx'.items := by
  have hr := (cCall_reach hw.cKeys h).2
  rw [cItemsOK_iff] at hi ⊢
  exact ⟨hr.keys_nodup hi.1, hr.forall (fun _ _ _ hl hv => hv.ok hw hf hl) hi.2⟩

theorem cCalls_items {strict : Bool} {t : Tables} (hw : WF t) {s : CScript} (hf : strict = true → FreshUuids t s) {tx : CTx}
    (h : runCalls (cCall t) s.catchErrors { newVer := t.ver + 1 } s.calls = .ok tx) : CItemsOK strict t tx.items :=
  runCalls_inv_of (fun tx : CTx => CItemsOK strict t tx.items) (fun c => strict = true → freshCall t c = true)
    (fun _ _ _ hg hp hc => cCall_ok hw hg hp hc) _ _ _ _ (fun c hc hs => hf hs c hc) (CItemsOK.nil strict t) h

theorem cCalls_ok {t : Tables} (hw : WF t) {s : CScript} (hf : FreshUuids t s) {tx : CTx}
    (h : runCalls (cCall t) s.catchErrors { newVer := t.ver + 1 } s.calls = .ok tx) : CItemsOK true t tx.items :=
  cCalls_items hw (fun _ => hf) h

theorem CItemFrom.kind {t : Tables} (hw : WF t) (hk : KOK t) {c : CCall} {l : List (Handle × CItem)} {h : Handle} {it : CItem}
    (hl : ∀ p ∈ l, ∀ n ∈ p.2.new, ∀ d ∈ t.descrs, d.handle = n.dh → d.kind = .context) (hi : CItemFrom t c l h it) :
    ∀ n ∈ it.new, ∀ d ∈ t.descrs, d.handle = n.dh → d.kind = .context := by
  cases hi with
  | @fetched o n ho hh hdh hdv hsv => rw [forall_mem_some, hdh]; exact hk.kCD o (findC_some ho).2
  | @edited o n n' hm hh hdh hdv hsv => rw [forall_mem_some, hdh]; exact hl _ hm n rfl
  | @created dh explicit assoc body now d n hc hd hkd hh hdh hdv hex hgen =>
    rw [forall_mem_some, hdh]
    intro d' hd' e
    rw [mem_unique hw.dKeys hd' (findD_some hd).2 (e.trans (findD_some hd).1.symm)]; exact hkd
  | @deleted o _ ho => exact fun _ hn => by cases hn

theorem cCalls_kind {t : Tables} (hw : WF t) (hk : KOK t) {s : CScript} {tx : CTx}
    (h : runCalls (cCall t) s.catchErrors { newVer := t.ver + 1 } s.calls = .ok tx) :
    ∀ p ∈ tx.items, ∀ n ∈ p.2.new, ∀ d ∈ t.descrs, d.handle = n.dh → d.kind = .context :=
  runCalls_inv (fun tx : CTx => ∀ p ∈ tx.items, ∀ n ∈ p.2.new, ∀ d ∈ t.descrs, d.handle = n.dh → d.kind = .context)
    (fun _ _ _ hp hc => (cCall_reach hw.cKeys hc).2.forall (fun _ _ _ hl hv => hv.kind hw hk hl) hp) _ _ _ _
    (by intro _ hp; cases hp) h

theorem commitC_of_ne {t : Tables} {tx : CTx} (h : tx.items.isEmpty = false) :
    commitC t tx = ((applyCItems { t with ver := t.ver + 1 } tx.items).1,
      { ctx := (applyCItems { t with ver := t.ver + 1 } tx.items).2.1 },
      (applyCItems { t with ver := t.ver + 1 } tx.items).2.2) := by
  rw [commitC, h]; rfl

theorem commitC_empty {t : Tables} {tx : CTx} (h : tx.items.isEmpty = true) : commitC t tx = (t, {}, none) := by
  rw [commitC, if_pos h]

theorem runC_cases {t : Tables} {s : CScript} {P : Tables × TxResult × Outcome → Prop} (h1 : P (t, {}, .rejected))
    (h2 : s.raiseAtEnd = true → P (t, {}, .aborted))
    (h3 : ∀ tx e, runCalls (cCall t) s.catchErrors { newVer := t.ver + 1 } s.calls = .ok tx → s.raiseAtEnd = false →
      (commitC t tx).2.2 = some e → P ((commitC t tx).1, {}, .commitFailed))
    (h4 : ∀ tx, runCalls (cCall t) s.catchErrors { newVer := t.ver + 1 } s.calls = .ok tx → s.raiseAtEnd = false →
      (commitC t tx).2.2 = none →
      P ((commitC t tx).1, (commitC t tx).2.1, if tx.items.isEmpty then .empty else .committed)) : P (runC t s) := by
  unfold runC
  cases htx : runCalls (cCall t) s.catchErrors { newVer := t.ver + 1 } s.calls with
  | error e => exact h1
  | ok tx =>
    dsimp only
    cases ha : s.raiseAtEnd with
    | true => exact h2 ha
    | false =>
      have a := h3 tx; have b := h4 tx htx ha
      generalize commitC t tx = r at a b
      obtain ⟨t', r, _ | e⟩ := r
      · exact b rfl
      · exact a e htx ha rfl

theorem runC_spec (t : Tables) (s : CScript) :
    (∃ o, runC t s = (t, {}, o) ∧ (o = .rejected ∨ o = .aborted ∨ o = .empty)) ∨
    ∃ tx, runCalls (cCall t) s.catchErrors { newVer := t.ver + 1 } s.calls = .ok tx ∧ s.raiseAtEnd = false ∧
      tx.items.isEmpty = false ∧
      (((commitC t tx).2.2 = none ∧ runC t s = ((commitC t tx).1, (commitC t tx).2.1, .committed)) ∨
       ((commitC t tx).2.2 ≠ none ∧ runC t s = ((commitC t tx).1, {}, .commitFailed))) := by
  refine runC_cases (P := fun r => runC t s = r → _) (fun e => .inl ⟨_, e, .inl rfl⟩) (fun _ e => .inl ⟨_, e, .inr (.inl rfl)⟩)
    (fun tx e htx hr he eq => ?_) (fun tx htx hr he eq => ?_) rfl
  · refine .inr ⟨tx, htx, hr, Bool.eq_false_iff.2 (fun hE => ?_), .inr ⟨by rw [he]; nofun, eq⟩⟩
    rw [commitC_empty hE] at he; cases he
  · cases hE : tx.items.isEmpty with
    | true => rw [hE, commitC_empty hE] at eq; exact .inl ⟨_, eq, .inr (.inr rfl)⟩
    | false => rw [hE] at eq; exact .inr ⟨tx, htx, hr, hE, .inl ⟨he, eq⟩⟩

theorem runC_tables (t : Tables) (s : CScript) :
    (runC t s).1 = t ∨ ∃ tx : CTx, runCalls (cCall t) s.catchErrors { newVer := t.ver + 1 } s.calls = .ok tx ∧
      (runC t s).1 = (applyCItems { t with ver := t.ver + 1 } tx.items).1 := by
  rcases runC_spec t s with ⟨o, e, _⟩ | ⟨tx, htx, _, hne, ⟨_, e⟩ | ⟨_, e⟩⟩
  · exact .inl (congrArg Prod.fst e)
  · exact .inr ⟨tx, htx, (congrArg Prod.fst e).trans (congrArg Prod.fst (commitC_of_ne hne))⟩
  · exact .inr ⟨tx, htx, (congrArg Prod.fst e).trans (congrArg Prod.fst (commitC_of_ne hne))⟩

theorem runC_wf {t : Tables} (hw : WF t) (s : CScript) : WF (runC t s).1 := by
  rcases runC_tables t s with e | ⟨tx, htx, e⟩
  · rw [e]; exact hw
  · -- whatever happens (also a commit that dies on a colliding uuid) the tables stay well-formed
    rw [e]
    exact applyCItems_inv (I := fun t _ => WF t) (fun _ _ _ _ hi _ hw => hw.putCtx hi.head.h hi.head.ref) (fun _ _ _ h => h)
      ((cCalls_items (strict := false) hw nofun htx).of_ver (t.ver + 1)) (hw.of_ver _)

theorem runC_ok {t : Tables} (hw : WF t) (s : CScript) (hf : FreshUuids t s) : (runC t s).2.2 ≠ .commitFailed := by
  rcases runC_spec t s with ⟨o, e, ho⟩ | ⟨tx, htx, _, hne, ⟨_, e⟩ | ⟨herr, _⟩⟩
  · rw [e]; rcases ho with rfl | rfl | rfl <;> nofun
  · rw [e]; nofun
  · rw [commitC_of_ne hne] at herr
    exact absurd (applyCItems_noerr ((cCalls_ok hw hf htx).of_ver _)) herr

theorem runC_seenC {t : Tables} (hw : WF t) (s : CScript) (hf : FreshUuids t s) (h : Handle) : seenC t h ≤ seenC (runC t s).1 h := by
  rcases runC_tables t s with e | ⟨tx, htx, e⟩
  · rw [e]; exact optLe_refl _
  · rw [e]; exact applyCItems_seenC ((cCalls_ok hw hf htx).of_ver (t.ver + 1)) h

theorem runC_change {t : Tables} (hw : WF t) (s : CScript) (hf : FreshUuids t s) {h : Handle} {a b : CState}
    (ha : findC t h = some a) (hb : findC (runC t s).1 h = some b) : a = b ∨ a.sv < b.sv := by
  rcases runC_tables t s with e | ⟨tx, htx, e⟩
  · rw [e, ha] at hb; exact .inl (Option.some.inj hb)
  · rw [e] at hb; exact applyCItems_change ((cCalls_ok hw hf htx).of_ver (t.ver + 1)) ha hb

theorem runC_frame (t : Tables) (s : CScript) : FrC (runC t s).1 t := by
  rcases runC_tables t s with e | ⟨tx, _, e⟩
  · rw [e]; exact ⟨rfl, rfl, rfl, rfl⟩
  · rw [e]; exact applyCItems_frame _ _

theorem runC_kok {t : Tables} (hw : WF t) (hk : KOK t) (s : CScript) : KOK (runC t s).1 := by
  rcases runC_tables t s with e | ⟨tx, htx, e⟩
  · rw [e]; exact hk
  · rw [e]
    exact (applyCItems_inv
      (I := fun t l => KOK t ∧ ∀ p ∈ l, ∀ n ∈ p.2.new, ∀ d ∈ t.descrs, d.handle = n.dh → d.kind = .context)
      (fun t h it _ _ _ hI =>
        ⟨hI.1.putCtx (hI.2 _ (List.mem_cons_self ..)), fun p hp => (putCtx_descrs t h it.new).symm ▸ hI.2 p (List.mem_cons_of_mem _ hp)⟩)
      (fun _ _ _ hI => ⟨hI.1, fun p hp => hI.2 p (List.mem_cons_of_mem _ hp)⟩)
      ((cCalls_items (strict := false) hw nofun htx).of_ver (t.ver + 1)) ⟨hk.of_ver _, cCalls_kind hw hk htx⟩).1

end Sdc.Mdib
