import SdcModel.Http
/-! Lemmas about `SdcModel/Http.lean` for C17 (the reader's termination also for C13): the chunk reader run against the
chunk writer, the RFC 7230 recogniser run against the writer, what `parse_header` lets through, and the shape of an encoded
message with the two steps that undo it (framing, coding). Core Lean only. -/
namespace Sdc.Http
open Sdc.ChunkHex

theorem readUntil_hdr (hdr rest acc : Bytes) (f : Nat) (hh : ∀ b ∈ hdr, b ≠ 10) (hf : hdr.length + 2 ≤ f) :
    readUntil f acc (hdr ++ CRLF ++ rest) = some (acc.reverse ++ hdr, rest) := by
  induction hdr generalizing acc f with
  | nil =>
    match f, hf with
    | f + 2, _ => rw [List.append_nil]; rfl
  | cons h hdr ih =>
    match f, hf with
    | f + 1, hf =>
      have hne : h ≠ 10 := hh h (List.mem_cons_self ..)
      simp only [List.cons_append, readUntil]
      split
      · rename_i heq; injection heq with h1 _; exact absurd h1 hne
      · rw [ih (h :: acc) f (fun b hb => hh b (List.mem_cons_of_mem _ hb)) (Nat.le_of_succ_le_succ hf),
          List.reverse_cons, List.append_assoc, List.singleton_append]

theorem readUntil_consumes {f : Nat} {acc s hdr rest : Bytes} (h : readUntil f acc s = some (hdr, rest)) :
    rest.length < s.length := by
  induction f generalizing acc s with
  | zero => cases h
  | succ f ih =>
    cases s with
    | nil => cases h
    | cons b s =>
      simp only [readUntil] at h
      split at h
      · injection h with h; injection h with _ h2; rw [← h2]; exact Nat.lt_succ_self _
      · exact Nat.lt_succ_of_lt (ih h)

theorem readChunk_spec (w : Nat) (s : Bytes) :
    readChunk w s = .error .dechunk ∨
      ∃ dat rest last, readChunk w s = .ok (dat, rest, last) ∧ rest.length < s.length := by
  unfold readChunk
  cases hru : readUntil w [] s with
  | none => exact .inl rfl
  | some p =>
    obtain ⟨hdr, r⟩ := p
    have hc := readUntil_consumes hru
    dsimp only
    cases pyIntHex (hdr.takeWhile (· != 59)) with
    | none => exact .inl rfl
    | some len =>
      dsimp only
      by_cases h1 : len < 0
      · exact .inl (if_pos h1)
      · rw [if_neg h1]
        by_cases h2 : r.length < len.toNat
        · exact .inl (if_pos h2)
        · rw [if_neg h2]
          by_cases h3 : (r.drop len.toNat).take 2 ≠ CRLF
          · exact .inl (if_pos h3)
          · rw [if_neg h3]
            exact .inr ⟨_, _, _, rfl, by rw [List.length_drop, List.length_drop]; omega⟩

theorem readChunk_written (w : Nat) (dat tail : Bytes) (hw : (toHexBytes dat.length).length + 2 ≤ w) :
    readChunk w (toHexBytes dat.length ++ CRLF ++ (dat ++ (CRLF ++ tail))) = .ok (dat, tail, dat.length == 0) := by
  have hl := toHexBytes_lower dat.length
  have hsemi : (toHexBytes dat.length).takeWhile (· != 59) = toHexBytes dat.length := by
    have := List.takeWhile_append_of_pos (p := (· != 59)) (l₁ := toHexBytes dat.length) (l₂ := [])
      (fun b hb => by have := hl b hb; unfold IsLowerHex at this; simp only [bne_iff_ne, ne_eq]; omega)
    rwa [List.append_nil, List.takeWhile_nil, List.append_nil] at this
  unfold readChunk
  rw [readUntil_hdr _ _ [] w (fun b hb => by have := hl b hb; unfold IsLowerHex at this; omega) hw]
  dsimp only
  rw [List.reverse_nil, List.nil_append, hsemi, pyIntHex_toHexBytes]
  dsimp only
  rw [if_neg (Int.not_lt.2 (Int.natCast_nonneg _)), Int.toNat_natCast, List.drop_left, List.take_left,
    if_neg (by rw [List.length_append]; omega), if_neg (fun h => h rfl)]
  rfl

theorem dechunkF_fuel (w : Nat) {f g : Nat} {s : Bytes} (hf : s.length < f) (hg : s.length < g) :
    dechunkF w f s = dechunkF w g s := by
  induction f generalizing g s with
  | zero => omega
  | succ f ih =>
    match g, hg with
    | g + 1, hg =>
      rcases readChunk_spec w s with h | ⟨dat, rest, last, h, hlt⟩
      · simp only [dechunkF, h]
      · simp only [dechunkF, h, ih (g := g) (s := rest) (by omega) (by omega)]

/-- the loop bound is never the reason for an error: every pass consumes input -/
theorem dechunkF_spec (w : Nat) {f : Nat} {s : Bytes} (hf : s.length < f) :
    (∃ body rest, dechunkF w f s = .ok (body, rest) ∧ rest.length < s.length) ∨ dechunkF w f s = .error .dechunk := by
  induction f generalizing s with
  | zero => omega
  | succ f ih =>
    rcases readChunk_spec w s with h | ⟨dat, rest, last, h, hlt⟩
    · exact .inr (by simp only [dechunkF, h])
    · cases last with
      | true => exact .inl ⟨[], rest, by simp only [dechunkF, h, if_true], hlt⟩
      | false =>
        rcases ih (s := rest) (by omega) with ⟨more, r, h', hr⟩ | h'
        · exact .inl ⟨dat ++ more, r, by simp only [dechunkF, h, h', Bool.false_eq_true, if_false], by omega⟩
        · exact .inr (by simp only [dechunkF, h, h', Bool.false_eq_true, if_false])

theorem dechunk_spec (w : Nat) (s : Bytes) :
    (∃ body rest, dechunk w s = .ok (body, rest) ∧ rest.length < s.length) ∨ dechunk w s = .error .dechunk :=
  dechunkF_spec w (Nat.lt_succ_self _)

/-- `hwin`: every size line fits the reader's window -/
theorem dechunkF_mkChunksF (w n : Nat) (hn : 1 ≤ n) (hwin : ∀ k, k ≤ n → (toHexBytes k).length + 2 ≤ w)
    (f k : Nat) (body tail : Bytes) (hf : body.length < f) :
    dechunkF w (f + k) (mkChunksF n f body ++ tail) = .ok (body, tail) := by
  induction f generalizing body with
  | zero => omega
  | succ f ih =>
    rw [mkChunksF, List.append_assoc, List.append_assoc, List.append_assoc, Nat.add_right_comm, dechunkF,
      readChunk_written w _ _ (hwin _ (List.length_take_le ..))]
    dsimp only
    cases body with
    | nil => rw [List.take_nil]; rfl
    | cons a l =>
      obtain ⟨m, rfl⟩ : ∃ m, n = m + 1 := ⟨n - 1, by omega⟩
      have hl : (l.drop m).length < f := by rw [List.length_drop]; rw [List.length_cons] at hf; omega
      rw [List.take_succ_cons, List.drop_succ_cons, if_neg (by simp), if_neg (by simp), ih (l.drop m) hl]
      dsimp only
      rw [List.cons_append, List.take_append_drop]

theorem isChunkedF_step (f k : Nat) (rest : Bytes) :
    isChunkedF (f + 1) (toHexBytes k ++ CRLF ++ rest) =
      (if k = 0 then rest == CRLF
       else decide (k + 2 ≤ rest.length) && (rest.drop k).take 2 == CRLF && isChunkedF f ((rest.drop k).drop 2)) := by
  have hl : ∀ b ∈ toHexBytes k, isHexDig b = true := fun b hb => hexValB_isSome_of_lower (toHexBytes_lower k b hb)
  have htw : (toHexBytes k ++ CRLF ++ rest).takeWhile isHexDig = toHexBytes k := by
    rw [List.append_assoc, List.takeWhile_append_of_pos hl]; exact List.append_nil _
  have hdw : (toHexBytes k ++ CRLF ++ rest).dropWhile isHexDig = CRLF ++ rest := by
    rw [List.append_assoc, List.dropWhile_append_of_pos hl]; rfl
  have h1 : (toHexBytes k).isEmpty = false := by
    cases h : toHexBytes k with
    | nil => exact absurd h (toHexBytes_ne_nil k)
    | cons a l => rfl
  rw [isChunkedF, htw, hdw, show hexVal (toHexBytes k) = k from foldl_toHexBytes k, h1]
  rfl

theorem isChunkedF_mkChunksF (n : Nat) (hn : 1 ≤ n) (f g : Nat) (body : Bytes) (hf : body.length < f)
    (hg : (mkChunksF n f body).length < g) : isChunkedF g (mkChunksF n f body) = true := by
  induction f generalizing body g with
  | zero => omega
  | succ f ih =>
    match g, hg with
    | g + 1, hg =>
      rw [mkChunksF, List.append_assoc, List.append_assoc] at hg ⊢
      rw [isChunkedF_step]
      cases body with
      | nil => rw [List.take_nil]; rfl
      | cons a l =>
        obtain ⟨m, rfl⟩ : ∃ m, n = m + 1 := ⟨n - 1, by omega⟩
        have hl : (l.drop m).length < f := by rw [List.length_drop]; rw [List.length_cons] at hf; omega
        rw [List.take_succ_cons, List.drop_succ_cons, if_neg (by simp)] at hg ⊢
        have hrec := ih g (l.drop m) hl (by simp only [List.length_append, List.length_cons] at hg; omega)
        rw [if_neg (by simp), List.drop_left, Bool.and_eq_true, Bool.and_eq_true, decide_eq_true_eq,
          List.length_append, List.length_append]
        exact ⟨⟨Nat.add_le_add_left (Nat.le_add_right 2 _) _, rfl⟩, hrec⟩

theorem window_of_lt {w n : Nat} (h1 : 1 ≤ n) (hw : 2 ≤ w) (hn : n < 16 ^ (w - 2)) :
    ∀ k, k ≤ n → (toHexBytes k).length + 2 ≤ w := by
  intro k hk
  have hpos : 0 < w - 2 := Nat.pos_of_ne_zero (fun h0 => by rw [h0, Nat.pow_zero] at hn; omega)
  have := toHexBytes_length k (w - 2) hpos (Nat.lt_of_le_of_lt hk hn)
  omega

theorem dechunk_mkChunks (w n : Nat) (hn : 1 ≤ n) (hwin : ∀ k, k ≤ n → (toHexBytes k).length + 2 ≤ w) (body tail : Bytes) :
    dechunk w (mkChunks n body ++ tail) = .ok (body, tail) := by
  unfold dechunk mkChunks
  rw [dechunkF_fuel w (Nat.lt_succ_self _)
    (Nat.lt_add_left_iff_pos.2 (Nat.succ_pos _) : _ < body.length + 1 + (mkChunksF n (body.length + 1) body ++ tail).length)]
  exact dechunkF_mkChunksF w n hn hwin _ _ body tail (Nat.lt_succ_self _)

theorem dechunk_mkChunks_nil (w n : Nat) (hn : 1 ≤ n) (hw : 2 ≤ w) (hn' : n < 16 ^ (w - 2)) (body : Bytes) :
    dechunk w (mkChunks n body) = .ok (body, []) := by
  have := dechunk_mkChunks w n hn (window_of_lt hn hw hn') body []
  rwa [List.append_nil] at this

theorem choose_some {accepted supported : List Str} {c : Str} (h : choose accepted supported = some c) :
    c ∈ accepted ∧ c ∈ supported :=
  ⟨List.mem_of_find?_eq_some h, List.contains_iff_mem.1 (List.find?_some h)⟩

theorem choose_nil (accepted : List Str) : choose accepted [] = none :=
  List.find?_eq_none.2 (fun _ _ => Bool.false_ne_true)

theorem mem_insertDesc (e x : Str × Q) (l : List (Str × Q)) : x ∈ insertDesc e l ↔ x = e ∨ x ∈ l := by
  induction l with
  | nil => simp [insertDesc]
  | cons y r ih =>
    unfold insertDesc
    by_cases hlt : Q.lt e.2 y.2 = true
    · rw [if_pos hlt, List.mem_cons, ih, List.mem_cons, or_left_comm]
    · rw [if_neg hlt, List.mem_cons]

theorem mem_sortDesc (x : Str × Q) (l : List (Str × Q)) : x ∈ sortDesc l ↔ x ∈ l := by
  induction l with
  | nil => exact Iff.rfl
  | cons y r ih => rw [show sortDesc (y :: r) = insertDesc y (sortDesc r) from rfl, mem_insertDesc, ih, List.mem_cons]

theorem mem_odSet {d : List (Str × Q)} {k0 k : Str} {v0 v : Q} (h : (k, v) ∈ odSet d k0 v0) :
    (k = k0 ∧ v = v0) ∨ (k ≠ k0 ∧ (k, v) ∈ d) := by
  unfold odSet at h
  by_cases hany : d.any (fun e => e.1 == k0) = true
  · rw [if_pos hany, List.mem_map] at h
    obtain ⟨e, he, hf⟩ := h
    by_cases hk : (e.1 == k0) = true
    · rw [if_pos hk] at hf
      injection hf with h1 h2
      exact .inl ⟨h1.symm, h2.symm⟩
    · rw [if_neg hk] at hf
      subst hf
      exact .inr ⟨fun hkk => hk (beq_iff_eq.2 hkk), he⟩
  · rw [if_neg hany, List.mem_append, List.mem_singleton] at h
    rcases h with h | h
    · exact .inr ⟨fun hkk => hany (List.any_eq_true.2 ⟨(k, v), h, beq_iff_eq.2 hkk⟩), h⟩
    · injection h with h1 h2
      exact .inl ⟨h1, h2⟩

/-- the weight the last element naming `k` gives it (`weightOf` on the parsed elements) -/
def lookLast (es : List (Str × Q)) (k : Str) : Option Q := (es.reverse.find? (fun e => e.1 == k)).map (·.2)

theorem lookLast_snoc (es : List (Str × Q)) (e : Str × Q) (k : Str) :
    lookLast (es ++ [e]) k = if e.1 == k then some e.2 else lookLast es k := by
  unfold lookLast
  rw [List.reverse_append, List.reverse_singleton, List.singleton_append, List.find?_cons]
  cases e.1 == k <;> rfl

/-- `pre` = the elements already folded into `d` -/
theorem foldl_odSet_lookLast (es pre : List (Str × Q)) (d : List (Str × Q))
    (hd : ∀ k v, (k, v) ∈ d → lookLast pre k = some v) :
    ∀ k v, (k, v) ∈ es.foldl (fun d e => odSet d e.1 e.2) d → lookLast (pre ++ es) k = some v := by
  induction es generalizing pre d with
  | nil => rw [List.append_nil]; exact hd
  | cons e es ih =>
    rw [List.foldl_cons, List.append_cons]
    refine ih (pre ++ [e]) (odSet d e.1 e.2) fun k v hm => ?_
    rw [lookLast_snoc]
    rcases mem_odSet hm with ⟨h1, h2⟩ | ⟨h1, h2⟩
    · rw [h1, h2, if_pos (beq_self_eq_true _)]
    · rw [if_neg (fun h => h1 (beq_iff_eq.1 h).symm)]
      exact hd _ _ h2

theorem headerDict_sound {h k : Str} {v : Q} (hm : (k, v) ∈ headerDict h) : weightOf h k = some v :=
  foldl_odSet_lookLast (elements h) [] [] (fun _ _ hm => nomatch hm) k v hm

theorem mem_parseHeader {h c : Str} (hc : c ∈ parseHeader h) : ∃ q, weightOf h c = some q ∧ q.pos = true := by
  unfold parseHeader at hc
  obtain ⟨e, he, hec⟩ := List.mem_map.1 hc
  obtain ⟨hmem, hpos⟩ := List.mem_filter.1 he
  subst hec
  exact ⟨e.2, headerDict_sound ((mem_sortDesc _ _).1 hmem), hpos⟩

theorem cfgRun_entry {cfg : List Str} {ops : List CfgOp} {e : List Str × Option Str × Option Str} (he : e ∈ cfgRun cfg ops) :
    e.2.2 = choose (parseHeader (e.2.1.getD [])) e.1 ∧ (e.1 = cfg ∨ .setUsed e.1 ∈ ops) := by
  induction ops generalizing cfg with
  | nil => cases he
  | cons op ops ih =>
    cases op with
    | setUsed ns =>
      obtain ⟨h1, h2⟩ := ih (cfg := ns) he
      exact ⟨h1, .inr (h2.elim (fun h => h ▸ List.mem_cons_self ..) (List.mem_cons_of_mem _))⟩
    | request ae =>
      rcases List.mem_cons.1 he with he | he
      · rw [he]; exact ⟨rfl, .inl rfl⟩
      · obtain ⟨h1, h2⟩ := ih he
        exact ⟨h1, h2.imp_right (List.mem_cons_of_mem _)⟩

variable {w chunk : Nat} {r : Registry} {sup : List Str} {h : Hdrs} {wire z : Bytes}

theorem getHandler_mem {alg : Str} {c : Codec} (hg : r.getHandler alg = .ok c) :
    ∃ e ∈ r.handlers, e.2 = c ∧ e.1 = alg.map asciiLower := by
  unfold Registry.getHandler at hg
  cases hf : r.handlers.find? (fun e => e.1 == alg.map asciiLower) with
  | none => rw [hf] at hg; cases hg
  | some e =>
    rw [hf] at hg
    injection hg with hg
    exact ⟨e, List.mem_of_find?_eq_some hf, hg, eq_of_beq (List.find?_some (p := fun e : Str × Codec => e.1 == alg.map asciiLower) hf)⟩

theorem decodeBody_declared {enc : Str} {codec : Codec} (he : h.contentEncoding = some enc) (hne : enc ≠ [])
    (hen : (r.effective sup).contains enc = true) (hg : r.getHandler enc = .ok codec) (payload : Bytes) :
    decodeBody r sup h (some payload) = (codec.dec payload).elim (.error .codec) (fun y => .ok (some y)) := by
  unfold decodeBody
  rw [he]
  dsimp only
  rw [if_neg (mt List.isEmpty_iff.1 hne), if_pos hen]
  unfold Registry.decompress
  rw [hg]
  dsimp only
  cases codec.dec payload <;> rfl

theorem decodeBody_ok {body b : Option Bytes} {enc : Str} (hd : decodeBody r sup h body = .ok b)
    (he : h.contentEncoding = some enc) (hne : enc ≠ []) :
    (r.effective sup).contains enc = true ∧
      ∃ codec payload y, r.getHandler enc = .ok codec ∧ codec.dec payload = some y ∧ b = some y := by
  unfold decodeBody at hd
  rw [he] at hd
  dsimp only at hd
  rw [if_neg (mt List.isEmpty_iff.1 hne)] at hd
  by_cases hc : (r.effective sup).contains enc = true
  · rw [if_pos hc] at hd
    refine ⟨hc, ?_⟩
    unfold Registry.decompress at hd
    cases hg : r.getHandler enc with
    | error e => rw [hg] at hd; cases hd
    | ok cdc =>
      rw [hg] at hd
      cases body with
      | none => cases hd
      | some payload =>
        dsimp only at hd
        cases hy : cdc.dec payload with
        | none => rw [hy] at hd; cases hd
        | some y =>
          rw [hy] at hd
          injection hd with hd
          exact ⟨cdc, payload, y, rfl, hy, hd.symm⟩
  · rw [if_neg hc] at hd; cases hd

theorem readRequestBody_chunked {b rest : Bytes} (hc : h.isChunked = true) (hd : dechunk w wire = .ok (b, rest)) :
    readRequestBody w r sup h wire = decodeBody r sup h (some b) := by
  unfold readRequestBody; rw [if_pos hc, hd]

theorem readRequestBody_length {n : Int} (hc : h.isChunked = false) (hl : h.contentLength = some (.val n)) (hn : 0 ≤ n) :
    readRequestBody w r sup h wire = decodeBody r sup h (some (pyRead wire n)) := by
  unfold readRequestBody; rw [if_neg (hc ▸ Bool.false_ne_true), hl]; exact if_neg (Int.not_lt.2 hn)

theorem readRequestBody_ok {b : Option Bytes} (hr : readRequestBody w r sup h wire = .ok b) :
    ∃ body, decodeBody r sup h body = .ok b := by
  unfold readRequestBody at hr
  split at hr
  · split at hr
    · exact ⟨_, hr⟩
    · cases hr
  · split at hr
    · exact ⟨_, hr⟩
    · cases hr
    · cases hr
    · split at hr
      · cases hr
      · exact ⟨_, hr⟩

theorem readResponseBody_ok {payload : Bytes} {b : Option Bytes} (hr : readResponseBody r sup h payload = .ok b) :
    ∃ body, decodeBody r sup h body = .ok b := by
  unfold readResponseBody at hr
  split at hr
  · cases hr
  · exact ⟨_, hr⟩
  · exact ⟨_, hr⟩

theorem pyRead_all (z : Bytes) : pyRead z (z.length : Int) = z := by
  unfold pyRead
  rw [if_neg (Int.not_lt.2 (Int.natCast_nonneg _)), Int.toNat_natCast, List.take_length]

/-- `(h, wire)` frames the payload `z`: in chunks of `chunk` bytes, or (`chunk = 0`) by its Content-Length -/
def Framed (chunk : Nat) (h : Hdrs) (wire z : Bytes) : Prop :=
  (0 < chunk ∧ h.transferEncoding = some chunkedStr ∧ h.contentLength = none ∧ wire = mkChunks chunk z) ∨
  (chunk = 0 ∧ h.transferEncoding = none ∧ h.contentLength = some (.val z.length) ∧ wire = z)

/-- `z` is `body` in the content coding `ce` (none: not coded) -/
def Coded (r : Registry) (ce : Option Str) (body z : Bytes) : Prop :=
  (ce = none ∧ z = body) ∨ ∃ c codec, ce = some c ∧ r.getHandler c = .ok codec ∧ z = codec.enc body

theorem encodeMessage_ok {cands sup : List Str} {body : Bytes} (he : encodeMessage r cands sup chunk body = .ok (h, wire)) :
    ∃ z, Framed chunk h wire z ∧ Coded r h.contentEncoding body z ∧ h.contentEncoding = choose cands sup := by
  have hframe : ∀ (ce : Option Str) (z : Bytes),
      (if chunk > 0 then
          (.ok ({ transferEncoding := some chunkedStr, contentEncoding := ce }, mkChunks chunk z) : Except Err (Hdrs × Bytes))
        else .ok ({ contentLength := some (.val z.length), contentEncoding := ce }, z)) = .ok (h, wire) →
      Framed chunk h wire z ∧ h.contentEncoding = ce := by
    intro ce z hf
    by_cases hc : chunk > 0
    · rw [if_pos hc] at hf; injection hf with hf; injection hf with h1 h2; subst h1 h2
      exact ⟨.inl ⟨hc, rfl, rfl, rfl⟩, rfl⟩
    · rw [if_neg hc] at hf; injection hf with hf; injection hf with h1 h2; subst h1 h2
      exact ⟨.inr ⟨Nat.eq_zero_of_not_pos hc, rfl, rfl, rfl⟩, rfl⟩
  unfold encodeMessage at he
  cases hch : choose cands sup with
  | none =>
    rw [hch] at he
    obtain ⟨hf, hce⟩ := hframe none body he
    exact ⟨body, hf, .inl ⟨hce, rfl⟩, hce⟩
  | some c =>
    rw [hch] at he
    dsimp only at he
    unfold Registry.compress at he
    cases hg : r.getHandler c with
    | error e => rw [hg] at he; cases he
    | ok codec =>
      rw [hg] at he
      obtain ⟨hf, hce⟩ := hframe (some c) (codec.enc body) he
      exact ⟨_, hf, .inr ⟨c, codec, hce, hg, rfl⟩, hce⟩

theorem sendRequest_ok {supported requestEncs : List Str} {xml : Bytes}
    (hs : sendRequest r supported requestEncs chunk xml = .ok (h, wire)) :
    ∃ h0 ae, encodeMessage r requestEncs supported chunk xml = .ok (h0, wire) ∧ h = { h0 with acceptEncoding := ae } := by
  unfold sendRequest at hs
  cases he : encodeMessage r requestEncs supported chunk xml with
  | error e => rw [he] at hs; cases hs
  | ok p =>
    rw [he] at hs
    injection hs with hs; injection hs with hh hw
    exact ⟨p.1, _, by rw [← hw], hh.symm⟩

theorem isChunked_of_framed (hf : Framed chunk h wire z) : h.isChunked = decide (0 < chunk) := by
  unfold Hdrs.isChunked
  rcases hf with ⟨hc, hte, _, _⟩ | ⟨hc, hte, _, _⟩
  · rw [hte, decide_eq_true hc]; decide
  · rw [hte, hc]; rfl

theorem readRequestBody_framed (hw : 2 ≤ w) (hchunk : chunk < 16 ^ (w - 2)) (hf : Framed chunk h wire z) :
    readRequestBody w r sup h wire = decodeBody r sup h (some z) := by
  have hch := isChunked_of_framed hf
  rcases hf with ⟨hc, _, _, rfl⟩ | ⟨hc, _, hcl, rfl⟩
  · rw [decide_eq_true hc] at hch
    exact readRequestBody_chunked hch (dechunk_mkChunks_nil w chunk hc hw hchunk z)
  · rw [hc] at hch
    rw [readRequestBody_length hch hcl (Int.natCast_nonneg _), pyRead_all]

theorem readResponseBody_framed (hw : 2 ≤ w) (hchunk : chunk < 16 ^ (w - 2)) (hf : Framed chunk h wire z) :
    clientTransport w h wire = .ok z ∧ readResponseBody r sup h z = decodeBody r sup h (some z) := by
  have hch := isChunked_of_framed hf
  unfold clientTransport readResponseBody
  rcases hf with ⟨hc, _, hcl, rfl⟩ | ⟨hc, _, hcl, rfl⟩
  · rw [decide_eq_true hc] at hch
    rw [if_pos hch, dechunk_mkChunks_nil w chunk hc hw hchunk z, hcl]
    exact ⟨rfl, rfl⟩
  · rw [hc] at hch
    rw [if_neg (hch ▸ Bool.false_ne_true), hcl]
    dsimp only
    rw [pyRead_all]
    exact ⟨rfl, rfl⟩

theorem decodeBody_coded (hl : CodecsLossless r) (hne : NamesNonEmpty r) {body : Bytes}
    (hacc : ∀ c, h.contentEncoding = some c → (r.effective sup).contains c = true)
    (hz : Coded r h.contentEncoding body z) : decodeBody r sup h (some z) = .ok (some body) := by
  rcases hz with ⟨h1, h2⟩ | ⟨c, codec, h1, hg, h2⟩
  · unfold decodeBody; rw [h1, h2]
  · obtain ⟨e, hem, hec, hen⟩ := getHandler_mem hg
    have hcne : c ≠ [] := fun h0 => hne e hem (by rw [hen, h0]; rfl)
    rw [decodeBody_declared h1 hcne (hacc c h1) hg, h2, ← hec, hl e hem body]
    rfl

end Sdc.Http
