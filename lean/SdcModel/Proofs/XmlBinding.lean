import SdcModel.XmlBinding
/-!
Attributes and children of an `Xml` element, footprints, and what each primitive update of an element leaves alone
(`Within`). Core Lean only.
-/
namespace Sdc.XmlBinding

/-! Attributes are selected by name and children by tag, both with `List.filter` on a key: selecting key `m` after
the entries of key `n` were filtered out. -/

theorem filter_key_ne {α : Type} (key : α → Nat) {m n : Nat} (h : m ≠ n) (l : List α) :
    (l.filter fun a => !(key a == n)).filter (key · == m) = l.filter (key · == m) := by
  rw [List.filter_filter]
  refine List.filter_congr fun a _ => ?_
  cases hm : key a == m with
  | false => rfl
  | true => exact congrArg (!·) (beq_eq_false_iff_ne.mpr (eq_of_beq hm ▸ h))

theorem filter_key_self {α : Type} (key : α → Nat) (n : Nat) (l : List α) :
    (l.filter fun a => !(key a == n)).filter (key · == n) = [] := by
  rw [List.filter_filter]
  exact List.filter_eq_nil_iff.mpr fun a _ => by rw [Bool.and_not_self]; exact Bool.false_ne_true

theorem getAttr_eq_head (a : Attrs) (k : Nat) : getAttr a k = ((a.filter (·.1 == k)).head?).map (·.2) := by
  rw [List.head?_filter]; rfl

theorem getAttr_delAttr_ne (a : Attrs) (k k' : Nat) (h : k' ≠ k) : getAttr (delAttr a k) k' = getAttr a k' := by
  rw [getAttr_eq_head, getAttr_eq_head]
  exact congrArg (fun l => l.head?.map (·.2)) (filter_key_ne (·.1) h a)

theorem getAttr_delAttr_self (a : Attrs) (k : Nat) : getAttr (delAttr a k) k = none := by
  rw [getAttr_eq_head]
  exact congrArg (fun l => l.head?.map (·.2)) (filter_key_self (·.1) k a)

theorem getAttr_append (a b : Attrs) (k : Nat) : getAttr (a ++ b) k = (getAttr a k).or (getAttr b k) := by
  simp only [getAttr, List.find?_append, Option.map_or]

theorem getAttr_setAttr_self (a : Attrs) (k : Nat) (v : String) : getAttr (setAttr a k v) k = some v := by
  rw [setAttr, getAttr_append, getAttr_delAttr_self]
  simp [getAttr]

theorem getAttr_setAttr_ne (a : Attrs) (k : Nat) (v : String) (k' : Nat) (h : k' ≠ k) :
    getAttr (setAttr a k v) k' = getAttr a k' := by
  rw [setAttr, getAttr_append, getAttr_delAttr_ne _ _ _ h]
  have : getAttr [(k, v)] k' = none := by simp [getAttr, Ne.symm h]
  rw [this, Option.or_none]

theorem named_append (n : Nat) (a b : List Xml) : named n (a ++ b) = named n a ++ named n b :=
  List.filter_append ..

theorem firstNamed_eq_head (n : Nat) (ks : List Xml) : firstNamed n ks = (named n ks).head? :=
  List.head?_filter.symm

theorem named_cons (n : Nat) (k : Xml) (ks : List Xml) :
    named n (k :: ks) = if k.tag == n then k :: named n ks else named n ks :=
  List.filter_cons

theorem named_cons_of_ne {n : Nat} {k : Xml} (h : k.tag ≠ n) (ks : List Xml) : named n (k :: ks) = named n ks :=
  List.filter_cons_of_neg (mt beq_iff_eq.mp h)

theorem named_removeAll_ne (n m : Nat) (h : m ≠ n) (ks : List Xml) : named m (removeAll n ks) = named m ks :=
  filter_key_ne Xml.tag h ks

theorem named_removeAll_self (n : Nat) (ks : List Xml) : named n (removeAll n ks) = [] :=
  filter_key_self Xml.tag n ks

theorem named_self_of_all (n : Nat) (ks : List Xml) (h : ∀ k ∈ ks, k.tag = n) : named n ks = ks :=
  List.filter_eq_self.mpr fun k hk => beq_iff_eq.mpr (h k hk)

theorem clean_iff {n : Nat} {ks : List Xml} : named n ks = [] ↔ ∀ k ∈ ks, k.tag ≠ n :=
  List.filter_eq_nil_iff.trans
    ⟨fun h k hk e => h k hk (beq_iff_eq.mpr e), fun h k hk e => h k hk (beq_iff_eq.mp e)⟩

theorem named_ne_of_all (n m : Nat) (hm : m ≠ n) (ks : List Xml) (h : ∀ k ∈ ks, k.tag = n) : named m ks = [] :=
  clean_iff.mpr fun k hk e => hm (e.symm.trans (h k hk))

theorem removeAll_of_clean (n : Nat) (ks : List Xml) (h : named n ks = []) : removeAll n ks = ks :=
  List.filter_eq_self.mpr fun k hk => by simpa using clean_iff.mp h k hk

theorem named_removeFirst_ne (n m : Nat) (h : m ≠ n) (ks : List Xml) : named m (removeFirst n ks) = named m ks := by
  induction ks with
  | nil => rfl
  | cons k ks ih =>
    by_cases hk : k.tag = n
    · rw [removeFirst, if_pos (beq_iff_eq.mpr hk), named_cons_of_ne fun e => h (e.symm.trans hk)]
    · rw [removeFirst, if_neg (mt beq_iff_eq.mp hk), named_cons, named_cons, ih]

theorem named_modifyFirst_ne (n m : Nat) (h : m ≠ n) (f : Xml → Xml) (hf : ∀ e, (f e).tag = e.tag) (ks : List Xml) :
    named m (modifyFirst n f ks) = named m ks := by
  induction ks with
  | nil => exact named_cons_of_ne (by rw [hf]; exact Ne.symm h) []
  | cons k ks ih =>
    by_cases hk : k.tag = n
    · have hm : k.tag ≠ m := fun e => h (e.symm.trans hk)
      rw [modifyFirst, if_pos (beq_iff_eq.mpr hk), named_cons_of_ne hm, named_cons_of_ne (by rw [hf]; exact hm)]
    · rw [modifyFirst, if_neg (mt beq_iff_eq.mp hk), named_cons, named_cons, ih]

theorem removeFirst_of_clean (n : Nat) (ks : List Xml) (h : named n ks = []) : removeFirst n ks = ks := by
  induction ks with
  | nil => rfl
  | cons k ks ih =>
    have h := List.forall_mem_cons.mp (clean_iff.mp h)
    rw [removeFirst, if_neg (mt beq_iff_eq.mp h.1), ih (clean_iff.mpr h.2)]

theorem modifyFirst_of_clean (n : Nat) (f : Xml → Xml) (ks : List Xml) (h : named n ks = []) :
    modifyFirst n f ks = ks ++ [f (Xml.empty n)] := by
  induction ks with
  | nil => rfl
  | cons k ks ih =>
    have h := List.forall_mem_cons.mp (clean_iff.mp h)
    rw [modifyFirst, if_neg (mt beq_iff_eq.mp h.1), ih (clean_iff.mpr h.2), List.cons_append]

section
variable (x : Xml)
@[simp] theorem tag_setAttrs (a) : (x.setAttrs a).tag = x.tag := by cases x; rfl
@[simp] theorem kids_setAttrs (a) : (x.setAttrs a).kids = x.kids := by cases x; rfl
@[simp] theorem text_setAttrs (a) : (x.setAttrs a).text = x.text := by cases x; rfl
@[simp] theorem attrs_setAttrs (a) : (x.setAttrs a).attrs = a := by cases x; rfl
@[simp] theorem tag_setKids (k) : (x.setKids k).tag = x.tag := by cases x; rfl
@[simp] theorem kids_setKids (k) : (x.setKids k).kids = k := by cases x; rfl
@[simp] theorem text_setKids (k) : (x.setKids k).text = x.text := by cases x; rfl
@[simp] theorem attrs_setKids (k) : (x.setKids k).attrs = x.attrs := by cases x; rfl
@[simp] theorem tag_setText (t) : (x.setText t).tag = x.tag := by cases x; rfl
@[simp] theorem kids_setText (t) : (x.setText t).kids = x.kids := by cases x; rfl
@[simp] theorem text_setText (t) : (x.setText t).text = t := by cases x; rfl
@[simp] theorem attrs_setText (t) : (x.setText t).attrs = x.attrs := by cases x; rfl
end
@[simp] theorem tag_empty (n : Nat) : (Xml.empty n).tag = n := rfl
@[simp] theorem kids_empty (n : Nat) : (Xml.empty n).kids = [] := rfl
@[simp] theorem text_empty (n : Nat) : (Xml.empty n).text = "" := rfl
@[simp] theorem attrs_empty (n : Nat) : (Xml.empty n).attrs = [] := rfl

theorem Xml.ext' {x y : Xml} (h1 : x.tag = y.tag) (h2 : x.attrs = y.attrs) (h3 : x.kids = y.kids) (h4 : x.text = y.text) :
    x = y := by
  cases x; cases y; cases h1; cases h2; cases h3; cases h4; rfl

/-- `x` and `y` look the same through footprint `fp` -/
def Agree : Fp → Xml → Xml → Prop
  | .attr n, x, y => getAttr x.attrs n = getAttr y.attrs n
  | .child n, x, y => named n x.kids = named n y.kids
  | .selfText, x, y => x.text = y.text
  | .selfKids, x, y => x.kids = y.kids
  | .whole, x, y => x = y

/-- nothing has been written into footprint `fp` yet -/
def Clean : Fp → Xml → Prop
  | .attr n, x => getAttr x.attrs n = none
  | .child n, x => named n x.kids = []
  | .selfText, x => x.text = ""
  | .selfKids, x => x.kids = []
  | .whole, _ => False

/-! Through every footprint `Agree` is an equation between two views, `Clean` says that the view is empty. -/

theorem Agree.refl (fp : Fp) (x : Xml) : Agree fp x x := by cases fp <;> exact rfl

theorem Agree.trans {fp : Fp} {x y z : Xml} (h1 : Agree fp x y) (h2 : Agree fp y z) : Agree fp x z := by
  cases fp <;> exact Eq.trans h1 h2

theorem Agree.symm {fp : Fp} {x y : Xml} (h : Agree fp x y) : Agree fp y x := by
  cases fp <;> exact Eq.symm h

theorem Clean.of_agree {fp : Fp} {x y : Xml} (h : Agree fp x y) (hc : Clean fp x) : Clean fp y := by
  cases fp with
  | whole => exact hc
  | _ => exact (Eq.symm h).trans hc

theorem clean_empty (fp : Fp) (h : fp ≠ .whole) (n : Nat) : Clean fp (Xml.empty n) := by
  cases fp with
  | whole => exact h rfl
  | _ => exact rfl

/-- `x'` is `x` up to what lies inside footprint `g`: same tag, and the same through every footprint independent of `g` -/
def Within (g : Fp) (x x' : Xml) : Prop :=
  x'.tag = x.tag ∧ ∀ fp : Fp, fp.indep g = true → Agree fp x x'

theorem Within.refl (g : Fp) (x : Xml) : Within g x x := ⟨rfl, fun fp _ => Agree.refl fp x⟩

theorem within_setAttrs {x : Xml} {n : Nat} (a : Attrs) (ha : ∀ m, m ≠ n → getAttr a m = getAttr x.attrs m) :
    Within (.attr n) x (x.setAttrs a) := by
  obtain ⟨t, as, ks, s⟩ := x
  refine ⟨rfl, fun fp hi => ?_⟩
  cases fp with
  | attr m => exact (ha m (bne_iff_ne.mp hi)).symm
  | whole => cases hi
  | _ => exact rfl

theorem within_setKids {x : Xml} {n : Nat} (ks' : List Xml) (hk : ∀ m, m ≠ n → named m ks' = named m x.kids) :
    Within (.child n) x (x.setKids ks') := by
  obtain ⟨t, as, ks, s⟩ := x
  refine ⟨rfl, fun fp hi => ?_⟩
  cases fp with
  | child m => exact (hk m (bne_iff_ne.mp hi)).symm
  | attr m => exact rfl
  | selfText => exact rfl
  | _ => cases hi

theorem within_setText (x : Xml) (l : String) : Within .selfText x (x.setText l) := by
  obtain ⟨t, as, ks, s⟩ := x
  refine ⟨rfl, fun fp hi => ?_⟩
  cases fp with
  | selfText => cases hi
  | whole => cases hi
  | _ => exact rfl

theorem within_setKids_self (x : Xml) (ks' : List Xml) : Within .selfKids x (x.setKids ks') := by
  obtain ⟨t, as, ks, s⟩ := x
  refine ⟨rfl, fun fp hi => ?_⟩
  cases fp with
  | attr m => exact rfl
  | selfText => exact rfl
  | _ => cases hi

end Sdc.XmlBinding
