import SdcModel.Proofs.ObjGraph
/-!
The separation invariant of M2 `ObjGraph` ("identities reachable from class defaults ∩ identities reachable from any
instance = ∅", "instances of different groups share nothing"): every operation preserves it and leaves the instances
of other groups literally unchanged. The lemmas named `…_pack` give both halves at once for one operation or one part
of it: `Inv` of the result, and what stays as it is (`Pres`, or for a whole operation the frame clause of `step_pack`).
-/
namespace Sdc.ObjGraph

structure Inv (D : List Tree) (s : St) : Prop where
  dflt : s.defaults = D
  dLt : ∀ x ∈ idsL D, x < s.next
  iLt : ∀ a ∈ s.insts, ∀ x ∈ a.tree.ids, x < s.next
  sepD : ∀ a ∈ s.insts, ∀ x ∈ a.tree.ids, x ∉ idsL D
  gLt : ∀ a ∈ s.insts, a.grp < s.insts.length
  sep : ∀ a ∈ s.insts, ∀ b ∈ s.insts, a.grp ≠ b.grp → Disjoint a.tree.ids b.tree.ids

theorem init_inv (D : List Tree) : Inv D (init D) where
  dflt := rfl
  dLt := fun _ hx => Nat.lt_succ_of_le (maxId_ge hx)
  iLt := fun _ ha => nomatch ha
  sepD := fun _ ha => nomatch ha
  gLt := fun _ ha => nomatch ha
  sep := fun _ ha => nomatch ha

/-- The argument behind every operation. In `s'` each identity of an instance either was drawn from the supply since
    `s`, and then the instance is in the one group `g0`, or it belonged in `s` to an instance whose group `ρ` maps to
    the group of the instance (`ρ = id` unless groups are merged). -/
theorem Inv.of_origin {D : List Tree} {s s' : St} (hI : Inv D s) (ρ : Nat → Nat) (g0 : Nat)
    (hd : s'.defaults = s.defaults) (hn : s.next ≤ s'.next) (hg : ∀ a' ∈ s'.insts, a'.grp < s'.insts.length)
    (ho : ∀ a' ∈ s'.insts, ∀ x ∈ a'.tree.ids, (s.next ≤ x ∧ x < s'.next ∧ a'.grp = g0) ∨
      ∃ a ∈ s.insts, ρ a.grp = a'.grp ∧ x ∈ a.tree.ids) : Inv D s' where
  dflt := hd.trans hI.dflt
  dLt := fun x hx => Nat.lt_of_lt_of_le (hI.dLt x hx) hn
  iLt := fun a' ha' x hx => (ho a' ha' x hx).elim (·.2.1)
    fun ⟨a, ha, _, hxa⟩ => Nat.lt_of_lt_of_le (hI.iLt a ha x hxa) hn
  sepD := fun a' ha' x hx hD => (ho a' ha' x hx).elim (fun h => Nat.not_le_of_lt (hI.dLt x hD) h.1)
    fun ⟨a, ha, _, hxa⟩ => hI.sepD a ha x hxa hD
  gLt := hg
  sep := fun a' ha' b' hb' hab x hxa hxb => by
    rcases ho a' ha' x hxa with ⟨h1, _, ga⟩ | ⟨a, ha, ga, hxa⟩ <;>
      rcases ho b' hb' x hxb with ⟨h2, _, gb⟩ | ⟨b, hb, gb, hxb⟩
    · exact hab (ga.trans gb.symm)
    · exact Nat.not_le_of_lt (hI.iLt b hb x hxb) h1
    · exact Nat.not_le_of_lt (hI.iLt a ha x hxa) h2
    · exact hI.sep a ha b hb (fun e => hab (by rw [← ga, ← gb, e])) x hxa hxb

theorem inv_add {D : List Tree} {s : St} (hI : Inv D s) (e : Inst) (n' : Nat) (hn : s.next ≤ n')
    (hg : e.grp ≤ s.insts.length)
    (he : ∀ x ∈ e.tree.ids, (s.next ≤ x ∧ x < n') ∨ ∃ b ∈ s.insts, b.grp = e.grp ∧ x ∈ b.tree.ids) :
    Inv D { s with insts := s.insts ++ [e], next := n' } := by
  refine hI.of_origin id e.grp rfl hn (fun a ha => ?_) (fun a ha x hx => ?_) <;>
    rcases List.mem_append.mp ha with ha | ha
  · exact List.length_append ▸ Nat.lt_succ_of_lt (hI.gLt a ha)
  · cases List.eq_of_mem_singleton ha
    exact List.length_append ▸ Nat.lt_succ_of_le hg
  · exact .inr ⟨a, ha, rfl, hx⟩
  · cases List.eq_of_mem_singleton ha
    exact (he x hx).imp_left fun h => ⟨h.1, h.2, rfl⟩

/-- `s'` keeps the instances of `s` in place, with group and root object; those of groups outside `G` are unchanged -/
def Pres (G : Nat → Prop) (s s' : St) : Prop :=
  ∀ (m : Nat) (c : Inst), s.insts[m]? = some c → ∃ c' : Inst, s'.insts[m]? = some c' ∧ c'.grp = c.grp ∧
    rootId c'.tree = rootId c.tree ∧ (¬ G c.grp → c' = c)

theorem Pres.refl (G : Nat → Prop) (s : St) : Pres G s s :=
  fun _ c h => ⟨c, h, rfl, rfl, fun _ => rfl⟩

theorem Pres.trans {G : Nat → Prop} {s s' s'' : St} (h1 : Pres G s s') (h2 : Pres G s' s'') : Pres G s s'' := by
  intro m c hc
  obtain ⟨c', hc', g1, r1, e1⟩ := h1 m c hc
  obtain ⟨c'', hc'', g2, r2, e2⟩ := h2 m c' hc'
  exact ⟨c'', hc'', g2.trans g1, r2.trans r1, fun hne => (e2 (by rw [g1]; exact hne)).trans (e1 hne)⟩

theorem Pres.frame {G : Nat → Prop} {s s' : St} (hp : Pres G s s') {k : Nat} {b : Inst} (hb : s.insts[k]? = some b)
    (hne : ¬ G b.grp) : s'.insts[k]? = some b := by
  obtain ⟨c', hc', _, _, e⟩ := hp k b hb
  rw [hc', e hne]

def Rooted (s : St) (i g r : Nat) : Prop := ∃ a, s.insts[i]? = some a ∧ a.grp = g ∧ rootId a.tree = some r

theorem Pres.rooted {G : Nat → Prop} {s s' : St} (hp : Pres G s s') {i g r : Nat} (h : Rooted s i g r) :
    Rooted s' i g r := by
  obtain ⟨a, hi, hg, hr⟩ := h
  obtain ⟨a', hi', hg', hr', _⟩ := hp i a hi
  exact ⟨a', hi', hg'.trans hg, hr'.trans hr⟩

/-- `P` holds of the identities the update brings in; instances of other groups do not contain `tgt` -/
theorem mutate_pack {D : List Tree} {s : St} (hI : Inv D s) {a0 : Inst} (h0 : a0 ∈ s.insts) {tgt : Nat}
    (ht : tgt ∈ a0.tree.ids) {G : Nat → Prop} (hG : G a0.grp) (f : List Tree → List Tree) (P : Nat → Prop) (n' : Nat)
    (hn : s.next ≤ n') (hf : ∀ ks x, x ∈ idsL (f ks) → x ∈ idsL ks ∨ P x)
    (hP : ∀ x, P x → (s.next ≤ x ∧ x < n') ∨ ∃ b ∈ s.insts, b.grp = a0.grp ∧ x ∈ b.tree.ids) :
    Inv D { mutate s tgt f with next := n' } ∧ Pres G s { mutate s tgt f with next := n' } := by
  have other : ∀ a ∈ s.insts, a.grp ≠ a0.grp → a.tree.mapNode tgt f = a.tree := fun a ha hne =>
    mapNode_of_not_mem tgt f a.tree fun hmem => hI.sep a ha a0 h0 hne tgt hmem ht
  constructor
  · refine hI.of_origin id a0.grp ?_ hn (fun a' ha' => ?_) (fun a' ha' x hx => ?_)
    · exact mapNodeL_of_not_mem tgt f s.defaults (hI.dflt ▸ hI.sepD a0 h0 tgt ht)
    · obtain ⟨a, ha, rfl⟩ := List.mem_map.mp ha'
      exact Nat.lt_of_lt_of_eq (hI.gLt a ha) (List.length_map _).symm
    · obtain ⟨a, ha, rfl⟩ := List.mem_map.mp ha'
      by_cases hg : a.grp = a0.grp
      · rcases ids_mapNode tgt f P hf a.tree x hx with h | h
        · exact .inr ⟨a, ha, rfl, h⟩
        · rcases hP x h with h | ⟨b, hb, hbg, hxb⟩
          · exact .inl ⟨h.1, h.2, hg⟩
          · exact .inr ⟨b, hb, hbg.trans hg.symm, hxb⟩
      · exact .inr ⟨a, ha, rfl, other a ha hg ▸ hx⟩
  · intro m c hc
    refine ⟨{ c with tree := c.tree.mapNode tgt f }, ?_, rfl, rootId_mapNode .., fun hne => ?_⟩
    · simp only [mutate, List.getElem?_map, hc, Option.map_some]
    · rw [other c (List.mem_of_getElem? hc) fun e => hne (e ▸ hG)]

theorem copyVal_ids (deep : Bool) (n : Nat) (v : Tree) : n ≤ (copyVal deep n v).2 ∧
    ∀ x ∈ (copyVal deep n v).1.ids, (n ≤ x ∧ x < (copyVal deep n v).2) ∨ (deep = false ∧ x ∈ idsL (kidsOf v)) := by
  cases v with
  | imm w => exact ⟨Nat.le_refl n, fun _ hx => nomatch hx⟩
  | obj r ks =>
    cases deep with
    | true => exact ⟨(fresh_drawn _ n).1, fun x hx => .inl ((fresh_drawn _ n).2 x hx)⟩
    | false =>
      refine ⟨Nat.le_succ n, fun x hx => ?_⟩
      rcases List.mem_cons.mp hx with rfl | hx
      · exact .inl ⟨Nat.le_refl _, Nat.lt_succ_self _⟩
      · exact .inr ⟨rfl, hx⟩

/-- `getattr(other, name)`: below its own identity, what it returns has only objects of `other`'s group. (The
    returned object itself need not be one: a lazily created list is stored in `other` only if slot `k` exists.) -/
theorem getProp_pack {D : List Tree} {s : St} (hI : Inv D s) {G : Nat → Prop} {j rb : Nat} {b : Inst}
    (hj : s.insts[j]? = some b) (hG : G b.grp) (hrb : rootId b.tree = some rb) {k : Nat} {g : GetMode}
    {q : Tree × St} (hq : getProp s rb k ((kidsOf b.tree).getD k (.imm 0)) g = q) :
    Inv D q.2 ∧ Pres G s q.2 ∧ ∀ x ∈ idsL (kidsOf q.1), ∃ b' ∈ q.2.insts, b'.grp = b.grp ∧ x ∈ b'.tree.ids := by
  have hbm := List.mem_of_getElem? hj
  have stored : Inv D s ∧ Pres G s s ∧ ∀ x ∈ idsL (kidsOf ((kidsOf b.tree).getD k (.imm 0))),
      ∃ b' ∈ s.insts, b'.grp = b.grp ∧ x ∈ b'.tree.ids :=
    ⟨hI, .refl _ _, fun x hx => ⟨b, hbm, rfl, kids_ids (getD_ids (kids_ids hx))⟩⟩
  unfold getProp at hq
  split at hq
  · split at hq <;> cases hq
    · have m := mutate_pack hI hbm (root_mem hrb) hG (fun ks => ks.set k (.obj s.next [])) (· = s.next)
        (s.next + 1) (Nat.le_succ _) (fun ks x hx => (idsL_set hx).imp_right fun h => List.mem_singleton.mp h)
        (fun x hx => .inl ⟨Nat.le_of_eq hx.symm, Nat.lt_succ_of_le (Nat.le_of_eq hx)⟩)
      exact ⟨m.1, m.2, fun _ hx => nomatch hx⟩
    · exact ⟨hI, .refl _ _, fun _ hx => nomatch hx⟩
    · exact stored
  · cases hq
    exact stored

/-- one property of `_update_from_other`; a shallow update needs the two instances to be in one group already -/
theorem updProp_pack {D : List Tree} {s : St} (hI : Inv D s) {i j ra rb Ga Gb : Nat} (ha : Rooted s i Ga ra)
    (hb : Rooted s j Gb rb) (deep : Bool) (hd : deep = false → Ga = Gb) (k : Nat) (g : GetMode) :
    Inv D (updProp deep s ra rb j k g) ∧ Pres (fun x => x = Ga ∨ x = Gb) s (updProp deep s ra rb j k g) := by
  obtain ⟨b, hj, rfl, hrb⟩ := hb
  rw [updProp, hj]
  generalize hq : getProp s rb k ((kidsOf b.tree).getD k (.imm 0)) g = q
  obtain ⟨q1, q2, q3⟩ := getProp_pack hI hj (G := fun x => x = Ga ∨ x = b.grp) (.inr rfl) hrb hq
  obtain ⟨a', ha', rfl, hra'⟩ := q2.rooted ha
  have cv := copyVal_ids deep q.2.next q.1
  have m := mutate_pack q1 (List.mem_of_getElem? ha') (root_mem hra') (G := fun x => x = a'.grp ∨ x = b.grp)
    (.inl rfl) (fun ks => ks.set k (copyVal deep q.2.next q.1).1) (· ∈ (copyVal deep q.2.next q.1).1.ids) _ cv.1
    (fun ks x hx => idsL_set hx)
    (fun x hx => (cv.2 x hx).imp_right fun ⟨hdeep, hxv⟩ =>
      let ⟨b', hb', hg', hx'⟩ := q3 x hxv; ⟨b', hb', hg'.trans (hd hdeep).symm, hx'⟩)
  exact ⟨m.1, q2.trans m.2⟩

theorem updProps_pack {D : List Tree} {i j ra rb Ga Gb : Nat} (deep : Bool) (hd : deep = false → Ga = Gb)
    (skip : List Nat) : ∀ (ps : List PropE) (k : Nat) (s : St), Inv D s → Rooted s i Ga ra → Rooted s j Gb rb →
      Inv D (updProps deep ra rb j skip s k ps) ∧
        Pres (fun x => x = Ga ∨ x = Gb) s (updProps deep ra rb j skip s k ps)
  | [], k, s, hI, _, _ => ⟨hI, .refl _ _⟩
  | p :: ps, k, s, hI, ha, hb => by
    have h1 : Inv D (if k ∈ skip then s else updProp deep s ra rb j k p.get) ∧
        Pres (fun x => x = Ga ∨ x = Gb) s (if k ∈ skip then s else updProp deep s ra rb j k p.get) := by
      split
      · exact ⟨hI, .refl _ _⟩
      · exact updProp_pack hI ha hb deep hd k p.get
    have h2 := updProps_pack deep hd skip ps (k + 1) _ h1.1 (h1.2.rooted ha) (h1.2.rooted hb)
    exact ⟨h2.1, h1.2.trans h2.2⟩

theorem mem_relabel {g g' : Nat} {l : List Inst} {a' : Inst} (h : a' ∈ relabel g g' l) :
    ∃ a ∈ l, a'.tree = a.tree ∧ a'.grp = (if a.grp = g then g' else a.grp) := by
  obtain ⟨a, ha, rfl⟩ := List.mem_map.mp h
  exact ⟨a, ha, (apply_ite Inst.tree ..).trans (ite_self _), apply_ite Inst.grp ..⟩

theorem inv_relabel {D : List Tree} {s : St} (hI : Inv D s) (g g' : Nat) (hg' : g' < s.insts.length) :
    Inv D { s with insts := relabel g g' s.insts } := by
  refine hI.of_origin (fun h => if h = g then g' else h) 0 rfl (Nat.le_refl _) (fun a' ha' => ?_)
    (fun a' ha' x hx => ?_) <;> obtain ⟨a, ha, ht, hga⟩ := mem_relabel ha'
  · rw [hga]
    refine Nat.lt_of_lt_of_eq ?_ (List.length_map _).symm
    split
    · exact hg'
    · exact hI.gLt a ha
  · exact .inr ⟨a, ha, hga.symm, ht ▸ hx⟩

theorem getElem?_relabel {g g' : Nat} {l : List Inst} {k : Nat} {a : Inst} (h : l[k]? = some a) :
    (relabel g g' l)[k]? = some (if a.grp = g then { a with grp := g' } else a) := by
  rw [relabel, List.getElem?_map, h]; rfl

theorem Rooted.relabel {s : St} {i g0 r : Nat} (h : Rooted s i g0 r) (g g' : Nat) :
    Rooted { s with insts := relabel g g' s.insts } i (if g0 = g then g' else g0) r := by
  obtain ⟨a, hi, rfl, hr⟩ := h
  refine ⟨_, getElem?_relabel hi, ?_⟩
  split <;> exact ⟨rfl, hr⟩

theorem evalNew_drawn {T : Table} (hT : tableOK T = true) {s : St} {v : NewVal} {t : Tree} {n : Nat}
    (h : evalNew T s v = some (t, n)) : Drawn s.next n t.ids := by
  cases v with
  | imm w => cases h; exact .nil _
  | construct c => exact construct_drawn hT h
  | tmpl u =>
    have e : u.fresh s.next = (t, n) := Option.some.inj h
    have := fresh_drawn u s.next
    rw [e] at this
    exact this

theorem getElem?_append_some {α : Type} {l l' : List α} {k : Nat} {b : α} (h : l[k]? = some b) :
    (l ++ l')[k]? = some b :=
  (List.getElem?_append_left (List.getElem?_eq_some_iff.mp h).1).trans h

theorem inv_add_new {D : List Tree} {s : St} (hI : Inv D s) (c : Nat) {t : Tree} {n' : Nat}
    (h : Drawn s.next n' t.ids) : Inv D { s with insts := s.insts ++ [⟨c, s.insts.length, t⟩], next := n' } :=
  inv_add hI _ n' h.1 (Nat.le_refl _) fun x hx => .inl (h.2 x hx)

/-- the frame clause is that of `step_pack`, with `[i]` for `Op.touched` of the two write operations -/
theorem write_pack {T : Table} (hT : tableOK T = true) {D : List Tree} {s : St} (hI : Inv D s) {i : Nat} {a : Inst}
    (hi : s.insts[i]? = some a) {path : List Nat} {tgt : Nat} {ks : List Tree}
    (hat : a.tree.at path = some (.obj tgt ks)) {v : NewVal} {t : Tree} {n : Nat} (hev : evalNew T s v = some (t, n))
    (f : List Tree → List Tree) (hf : ∀ ks x, x ∈ idsL (f ks) → x ∈ idsL ks ∨ x ∈ t.ids) :
    Inv D { mutate s tgt f with next := n } ∧ ∀ (k : Nat) (b : Inst), s.insts[k]? = some b →
      (∀ i' ∈ [i], ∀ a : Inst, s.insts[i']? = some a → a.grp ≠ b.grp) →
      { mutate s tgt f with next := n }.insts[k]? = some b := by
  have hd := evalNew_drawn hT hev
  have m := mutate_pack hI (List.mem_of_getElem? hi) (at_ids path a.tree _ hat tgt (List.mem_cons_self ..))
    (G := (· = a.grp)) rfl f (· ∈ t.ids) n hd.1 hf (fun x hx => .inl (hd.2 x hx))
  exact ⟨m.1, fun k b hb hind => m.2.frame hb fun e => hind i (List.mem_singleton_self i) a hi e.symm⟩

theorem update_pack {T : Table} {D : List Tree} {s s' : St} (hI : Inv D s) {i j : Nat} {skip : List Nat}
    (h : step T s (.update i j skip) = some s') :
    ∃ a b, s.insts[i]? = some a ∧ s.insts[j]? = some b ∧ Inv D s' ∧
      (∀ (k : Nat) (c : Inst), s.insts[k]? = some c → a.grp ≠ c.grp → b.grp ≠ c.grp → s'.insts[k]? = some c) ∧
      (clsFlag T a.cls (·.updDeep) = true →
        ∀ (m : Nat) (c : Inst), s.insts[m]? = some c → ∃ c' : Inst, s'.insts[m]? = some c' ∧ c'.grp = c.grp) := by
  rw [step] at h
  split at h
  · rename_i a b hi hj
    split at h
    · rename_i ra ka rb kb ce hta htb hce
      by_cases hcls : a.cls = b.cls
      · rw [if_pos hcls] at h
        have ha : Rooted s i a.grp ra := ⟨a, hi, rfl, congrArg rootId hta⟩
        have hb : Rooted s j b.grp rb := ⟨b, hj, rfl, congrArg rootId htb⟩
        refine ⟨a, b, hi, hj, ?_⟩
        cases hdeep : ce.updDeep with
        | true =>
          rw [hdeep, if_pos rfl] at h
          cases h
          have m := updProps_pack true (fun e => nomatch e) skip ce.props 0 s hI ha hb
          exact ⟨m.1, fun k c hc hac hbc => m.2.frame hc fun e => e.elim (hac ∘ Eq.symm) (hbc ∘ Eq.symm),
            fun _ k c hc => (m.2 k c hc).imp fun _ h => ⟨h.1, h.2.1⟩⟩
        | false =>
          rw [hdeep, if_neg Bool.false_ne_true] at h
          cases h
          -- the two groups become one
          have ha0 := ha.relabel a.grp b.grp
          have hb0 := hb.relabel a.grp b.grp
          rw [if_pos rfl] at ha0
          rw [ite_self] at hb0
          have m := updProps_pack false (fun _ => rfl) skip ce.props 0 _
            (inv_relabel hI a.grp b.grp (hI.gLt b (List.mem_of_getElem? hj))) ha0 hb0
          refine ⟨m.1, fun k c hc hac hbc => m.2.frame ?_ fun e => e.elim (hbc ∘ Eq.symm) (hbc ∘ Eq.symm), fun hd => ?_⟩
          · exact (getElem?_relabel hc).trans (congrArg some (if_neg (hac ∘ Eq.symm)))
          · simp only [clsFlag, hce, hdeep, Bool.false_eq_true] at hd
      · rw [if_neg hcls] at h
        cases h
    · cases h
  · cases h

theorem step_pack {T : Table} (hT : tableOK T = true) {D : List Tree} {s s' : St} {op : Op} (hI : Inv D s)
    (h : step T s op = some s') :
    Inv D s' ∧ ∀ (k : Nat) (b : Inst), s.insts[k]? = some b →
      (∀ i ∈ op.touched, ∀ a : Inst, s.insts[i]? = some a → a.grp ≠ b.grp) → s'.insts[k]? = some b := by
  cases op with
  | construct c =>
    rw [step] at h
    split at h
    · rename_i t n hc
      cases h
      exact ⟨inv_add_new hI c (construct_drawn hT hc), fun k b hb _ => getElem?_append_some hb⟩
    · cases h
  | parse c sh =>
    simp only [step] at h
    split at h
    · split at h
      · cases h
        exact ⟨inv_add_new hI c (build_drawn T hT s.defaults s.next (.imm 0) rfl 0 _),
          fun k b hb _ => getElem?_append_some hb⟩
      · cases h
    · cases h
  | copy i =>
    rw [step] at h
    split at h
    · rename_i c g r ks hi
      have him := List.mem_of_getElem? hi
      split at h <;> cases h
      · exact ⟨inv_add_new hI c (fresh_drawn _ s.next), fun k b hb _ => getElem?_append_some hb⟩
      · refine ⟨inv_add hI ⟨c, g, .obj s.next ks⟩ _ (Nat.le_succ _) (Nat.le_of_lt (hI.gLt ⟨c, g, .obj r ks⟩ him)) fun x hx => ?_,
          fun k b hb _ => getElem?_append_some hb⟩
        rcases List.mem_cons.mp hx with rfl | hx
        · exact .inl ⟨Nat.le_refl _, Nat.lt_succ_self _⟩
        · exact .inr ⟨_, him, rfl, List.mem_cons_of_mem _ hx⟩
    · cases h
  | deepcopy i =>
    rw [step] at h
    split at h
    · rename_i a hi
      have him := List.mem_of_getElem? hi
      split at h <;> cases h
      · exact ⟨inv_add_new hI a.cls (fresh_drawn a.tree s.next), fun k b hb _ => getElem?_append_some hb⟩
      · exact ⟨inv_add hI a s.next (Nat.le_refl _) (Nat.le_of_lt (hI.gLt _ him)) fun x hx => .inr ⟨a, him, rfl, hx⟩,
          fun k b hb _ => getElem?_append_some hb⟩
    · cases h
  | setKid i path kk v =>
    rw [step] at h
    split at h
    · rename_i a hi
      split at h
      · rename_i tgt ks hat
        split at h
        · split at h
          · rename_i t n hev
            cases h
            exact write_pack hT hI hi hat hev _ fun ks x hx => idsL_set hx
          · cases h
        · cases h
      · cases h
    · cases h
  | append i path v =>
    rw [step] at h
    split at h
    · rename_i a hi
      split at h
      · rename_i tgt ks hat
        split at h
        · rename_i t n hev
          cases h
          exact write_pack hT hI hi hat hev _ fun ks x hx => idsL_append hx
        · cases h
      · cases h
    · cases h
  | update i j skip =>
    obtain ⟨a, b, hi, hj, hI', hfr, _⟩ := update_pack hI h
    exact ⟨hI', fun k c hc hind => hfr k c hc (hind i (List.mem_cons_self ..) a hi)
      (hind j (List.mem_cons_of_mem _ (List.mem_cons_self ..)) b hj)⟩

theorem step_copy_deep {T : Table} {D : List Tree} {s s' : St} (hI : Inv D s) {i : Nat} {a : Inst}
    (hi : s.insts[i]? = some a) (hd : clsFlag T a.cls (·.copyDeep) = true) (h : step T s (.copy i) = some s') :
    ∃ e : Inst, s'.insts = s.insts ++ [e] ∧ e.cls = a.cls ∧ e.grp = s.insts.length ∧
      e.tree.strip = a.tree.strip ∧ Disjoint e.tree.ids a.tree.ids := by
  rw [step, hi] at h
  obtain ⟨c, g, t⟩ := a
  cases t with
  | imm v => cases h
  | obj r ks =>
    dsimp only at h hd
    rw [if_pos hd] at h
    cases h
    exact ⟨_, rfl, rfl, rfl, strip_fresh _ _, fun x hx hxa =>
      Nat.not_le_of_lt (hI.iLt _ (List.mem_of_getElem? hi) x hxa) ((fresh_drawn _ _).2 x hx).1⟩

theorem run_inv {T : Table} (hT : tableOK T = true) {D : List Tree} :
    ∀ (ops : List Op) (s : St), Inv D s → Inv D (run T s ops)
  | [], s, hI => hI
  | op :: ops, s, hI => by
    simp only [run]
    cases h : step T s op with
    | none => exact run_inv hT ops s hI
    | some s' => exact run_inv hT ops s' (step_pack hT hI h).1

theorem reached_inv {T : Table} (hT : tableOK T = true) (D : List Tree) (ops : List Op) :
    Inv D (run T (init D) ops) :=
  run_inv hT ops _ (init_inv D)

end Sdc.ObjGraph
