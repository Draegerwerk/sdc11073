import SdcModel.Proofs.XmlBindingFrame
/-!
The round trip read ∘ write = id: for one member of any descriptor kind written into a clean footprint
(`read_write_kind`), then for a class by induction over its member list (members with pairwise independent footprints
do not interfere) and over the nesting depth (`cls_roundtrip`).
-/
namespace Sdc.XmlBinding

/-- round trip of a nested instance through the call-backs, into an element of any tag, with or without `xsi:type` -/
def RTobj (wr : Wr) (rd : Rd) (c : Nat) (fs : List Val) : Prop :=
  ∀ n : Nat, ∃ ch, wr c fs (Xml.empty n) = some ch ∧ ch.tag = n ∧ getAttr ch.attrs xsiType = none ∧
    ∀ t, rd c (withXsi t ch) = some (.obj c fs)

theorem atoms_eq {vs : List Val} {ss : List String} (h : atoms vs = some ss) : vs = ss.map Val.atom := by
  induction vs generalizing ss with
  | nil => cases h; rfl
  | cons v vs ih =>
    cases v with
    | atom s =>
      obtain ⟨ss', h1, rfl⟩ := Option.map_eq_some_iff.mp h
      rw [ih h1]; rfl
    | _ => cases h

theorem mapM'_map {α β γ : Type} (f : β → Option γ) (g : α → β) : ∀ l : List α, mapM' f (l.map g) = mapM' (fun a => f (g a)) l
  | [] => rfl
  | a :: l => by simp only [List.map_cons, mapM', mapM'_map f g l]

theorem mapM'_congr_mem {α β : Type} {f g : α → Option β} {l : List α} (h : ∀ a ∈ l, f a = g a) :
    mapM' f l = mapM' g l := by
  induction l with
  | nil => rfl
  | cons a l ih => rw [mapM', mapM', h a List.mem_cons_self, ih fun b hb => h b (List.mem_cons_of_mem _ hb)]

theorem mapM'_congr {α β : Type} (f g : α → Option β) (h : ∀ a, f a = g a) (l : List α) : mapM' f l = mapM' g l :=
  mapM'_congr_mem fun a _ => h a

theorem read_atoms {C : Codec} {conv : String} {vs : List Val} {ss ls : List String} (ha : atoms vs = some ss)
    (hp : mapM' (C.toPy conv) ls = some ss) :
    (mapM' (C.toPy conv) ls).map (fun ts => Val.list (ts.map Val.atom)) = some (.list vs) := by
  rw [hp, atoms_eq ha]; rfl

theorem readClass_withXsi (S : Schema) {container : Bool} {dispatch decl c : Nat} (h : WTnested S container dispatch decl c)
    (ch : Xml) (hch : getAttr ch.attrs xsiType = none) :
    ∃ t, xsiFor S container decl c = some t ∧ readClass S dispatch decl (withXsi t ch) = some c := by
  obtain ⟨t, ht, hcase⟩ := h
  refine ⟨t, ht, ?_⟩
  cases t with
  | none =>
    cases (show c = decl from hcase)
    simp only [readClass, withXsi, hch, ite_self]
  | some q =>
    obtain ⟨hd, hl⟩ : dispatch ≠ 0 ∧ S.lookupType dispatch q = some c := hcase
    simp only [readClass, withXsi, attrs_setAttrs, getAttr_setAttr_self, if_neg hd, hl]

theorem nested_roundtrip (S : Schema) {wr : Wr} {rd : Rd} {container : Bool} {dispatch decl c : Nat} {fs : List Val}
    (hrt : RTobj wr rd c fs) (hn : WTnested S container dispatch decl c) (n : Nat) :
    ∃ ch t, wr c fs (Xml.empty n) = some ch ∧ xsiFor S container decl c = some t ∧ (withXsi t ch).tag = n ∧
      (readClass S dispatch decl (withXsi t ch)).bind (fun c => rd c (withXsi t ch)) = some (.obj c fs) := by
  obtain ⟨ch, hw, htag, hx, hr⟩ := hrt n
  obtain ⟨t, ht, hrc⟩ := readClass_withXsi S hn ch hx
  exact ⟨ch, t, hw, ht, (withXsi_tag ..).trans htag, by rw [hrc]; exact hr t⟩

theorem items_roundtrip (S : Schema) (wr : Wr) (rd : Rd) (P : Nat → List Val → Prop)
    (hP : ∀ c fs, P c fs → RTobj wr rd c fs) (n : Nat) (decl : Nat) (container : Bool) (dispatch : Nat) (vs : List Val)
    (h : ∀ w ∈ vs, ∃ c fs, w = .obj c fs ∧ P c fs ∧ WTnested S container dispatch decl c) :
    ∃ chs, writeItems S wr n decl container vs = some chs ∧ (∀ ch ∈ chs, ch.tag = n) ∧
      readItems S rd dispatch decl chs = some vs := by
  induction vs with
  | nil => exact ⟨[], rfl, nofun, rfl⟩
  | cons w vs ih =>
    obtain ⟨hw, hvs⟩ := List.forall_mem_cons.mp h
    obtain ⟨c, fs, rfl, hp, hn⟩ := hw
    obtain ⟨chs, h1, h2, h3⟩ := ih hvs
    obtain ⟨ch, t, hw, ht, htag, hr⟩ := nested_roundtrip S (hP c fs hp) hn n
    refine ⟨withXsi t ch :: chs, ?_, List.forall_mem_cons.mpr ⟨htag, h2⟩, ?_⟩
    · simp only [writeItems, hw, ht, h1]
    · simp only [readItems, hr, h3]

/-- the element a member with sub element name `sub` starts from when nothing was written yet -/
def baseOf : Option Nat → Xml → Xml
  | some n, _ => Xml.empty n
  | none, x => x

theorem elemOf_onElem_clean (self : Fp) (sub : Option Nat) (f : Xml → Xml) (hf : ∀ e, (f e).tag = e.tag) (x : Xml)
    (hc : Clean (subFp self sub) x) : elemOf sub (onElem sub f x) = some (f (baseOf sub x)) := by
  cases sub with
  | none => rfl
  | some n =>
    have hc : named n x.kids = [] := hc
    have : named n [f (Xml.empty n)] = [f (Xml.empty n)] :=
      named_self_of_all n _ fun k hk => by cases List.mem_singleton.mp hk; exact hf _
    simp only [elemOf, onElem, kids_setKids, modifyFirst_of_clean n f x.kids hc, firstNamed_eq_head, named_append, hc,
      List.nil_append, this, List.head?_cons, baseOf]

theorem elemOf_clean (n : Nat) (x : Xml) (hc : named n x.kids = []) : elemOf (some n) x = none := by
  simp only [elemOf, firstNamed_eq_head, hc, List.head?_nil]

theorem named_append_clean {n : Nat} {ks new : List Xml} (hc : named n ks = []) (hn : ∀ k ∈ new, k.tag = n) :
    named n (ks ++ new) = new := by
  rw [named_append, hc, List.nil_append, named_self_of_all n new hn]

/-- the value a member has after reading an element in which its attribute / child element is absent -/
def Kind.absentVal : Kind → Val
  | .attr _ _ _ _ => .none
  | .attrList _ _ _ => .list []
  | .text _ _ _ _ style dflt => match style, dflt with
    | .enumQName, some d => .atom d
    | _, _ => .none
  | .textList _ _ _ => .list []
  | .subTextList _ _ => .list []
  | .sub _ _ _ _ _ _ dflt => dflt.getD .none
  | .subList _ _ _ _ => .list []
  | .raw _ style _ => match style with
    | .any => .none
    | _ => .raw []

theorem Clean.agree_empty {fp : Fp} {x : Xml} (hc : Clean fp x) (n : Nat) : Agree fp x (Xml.empty n) := by
  cases fp with
  | whole => cases hc
  | _ => exact hc

theorem fp_named_ne {fp : Fp} (h : (∃ n, fp = .attr n) ∨ ∃ n, fp = .child n) :
    fp ≠ .selfText ∧ fp ≠ .selfKids ∧ fp ≠ .whole := by
  rcases h with ⟨_, rfl⟩ | ⟨_, rfl⟩ <;> exact ⟨Fp.noConfusion, Fp.noConfusion, Fp.noConfusion⟩

theorem read_absent {C : Codec} {S : Schema} {rd : Rd} (k : Kind) (x : Xml)
    (hfp : (∃ n, k.fp = .attr n) ∨ ∃ n, k.fp = .child n) (hc : Clean k.fp x) :
    readKind C S rd k x = some k.absentVal := by
  -- the member reads what it would read from an empty element, which is computed
  rw [readKind_agree C S rd k x (Xml.empty 0) (hc.agree_empty 0)]
  cases k with
  | text sub conv opt minLen style dflt =>
    cases sub with
    | none => exact absurd rfl (fp_named_ne hfp).1
    | some n => cases style <;> cases dflt <;> rfl
  | textList sub conv opt =>
    cases sub with
    | none => exact absurd rfl (fp_named_ne hfp).1
    | some n => rfl
  | sub name decl opt container skipEmpty dispatch dflt =>
    cases name with
    | none => exact absurd rfl (fp_named_ne hfp).2.2
    | some n => rfl
  | raw sub style opt =>
    cases sub with
    | none => exact absurd rfl (fp_named_ne hfp).2.1
    | some n => cases style <;> rfl
  | _ => rfl

theorem clean_delAttr (x : Xml) (n : Nat) : Clean (.attr n) (x.setAttrs (delAttr x.attrs n)) :=
  (congrArg (getAttr · n) (attrs_setAttrs ..)).trans (getAttr_delAttr_self ..)

theorem clean_dropElem (self : Fp) (sub : Option Nat) {x : Xml} (hc : Clean (subFp self sub) x) :
    Clean (subFp self sub) (dropElem sub x) := by
  cases sub with
  | none => exact hc
  | some n =>
    have hc : named n x.kids = [] := hc
    show named n (x.setKids (removeFirst n x.kids)).kids = []
    rw [kids_setKids, removeFirst_of_clean n _ hc, hc]

theorem read_raw_clean {C : Codec} {S : Schema} {rd : Rd} (sub : Option Nat) (style : RawStyle) (opt : Bool)
    (hs : style ≠ .any) (y : Xml) (hc : Clean (subFp .selfKids sub) y) :
    readKind C S rd (.raw sub style opt) y = some (.raw []) := by
  cases sub with
  | none => simp only [readKind, elemOf, show y.kids = [] from hc]
  | some n =>
    rw [read_absent (.raw (some n) style opt) y (.inr ⟨n, rfl⟩) hc]
    cases style with
    | any => exact absurd rfl hs
    | _ => rfl

theorem read_write_kind (C : Codec) (S : Schema) (wr : Wr) (rd : Rd) (P : Nat → List Val → Prop)
    (hP : ∀ c fs, P c fs → RTobj wr rd c fs) (k : Kind) (v : Val) (x : Xml) (hc : Clean k.fp x)
    (hwt : WTk C S P k v) : ∃ x', writeKind C S wr k v x = some x' ∧ readKind C S rd k x' = some v := by
  -- where nothing is written the footprint is still clean afterwards and `read_absent` gives the value
  cases k with
  | attr n conv opt vol =>
    obtain ⟨hvol, hv⟩ := hwt
    rcases hv with ⟨rfl, rfl, rfl⟩ | ⟨s, rfl, l, hl, hp⟩
    · exact ⟨_, rfl, read_absent _ _ (.inl ⟨n, rfl⟩) (clean_delAttr x n)⟩
    · -- a volatile member writes the current time, which is the value by `hvol`
      have hsel : (if vol = true then Val.atom C.now else Val.atom s) = Val.atom s := by
        cases vol with
        | false => rfl
        | true => exact (hvol rfl).symm
      refine ⟨x.setAttrs (setAttr x.attrs n l), ?_, ?_⟩
      · unfold writeKind; simp only [hsel, hl, Option.map_some]
      · simp only [readKind, attrs_setAttrs, getAttr_setAttr_self, hp, Option.map_some]
  | attrList n conv opt =>
    obtain ⟨vs, rfl, ss, ls, ha, hx, hp, hj⟩ := hwt
    by_cases he : (vs.isEmpty && opt) = true
    · cases List.isEmpty_iff.mp (Bool.and_eq_true_iff.mp he).1
      refine ⟨_, ?_, read_absent _ _ (.inl ⟨n, rfl⟩) (clean_delAttr x n)⟩
      unfold writeKind; simp only [he, if_true]
    · refine ⟨x.setAttrs (setAttr x.attrs n (C.join ls)), ?_, ?_⟩
      · unfold writeKind; simp only [if_neg he, ha, hx, Option.map_some]
      · simp only [readKind, attrs_setAttrs, getAttr_setAttr_self, hj rfl, read_atoms ha hp]
  | text sub conv opt minLen style dflt =>
    rw [fp_text] at hc
    rcases hwt with ⟨rfl, hsub, rfl, hd⟩ | ⟨s, l, rfl, hl, hp, hq⟩
    · obtain ⟨n, rfl⟩ := Option.isSome_iff_exists.mp hsub
      refine ⟨dropElem (some n) x, ?_, ?_⟩
      · cases style <;> rfl
      · rw [read_absent (.text (some n) conv true minLen style dflt) _ (.inr ⟨n, rfl⟩) (clean_dropElem .selfText (some n) hc)]
        -- the default of an absent enum member is excluded by `hd`
        cases style <;> cases dflt <;> first | rfl | exact absurd ⟨rfl, rfl⟩ hd
    · refine ⟨onElem sub (·.setText l) x, ?_, ?_⟩
      · unfold writeKind; simp only [hl, Option.map_some]
      · have hne : (style == TextStyle.qname && l == "") = false :=
          Bool.eq_false_iff.mpr fun h => hq (eq_of_beq (Bool.and_eq_true_iff.mp h).1) (eq_of_beq (Bool.and_eq_true_iff.mp h).2)
        simp only [readKind, elemOf_onElem_clean _ sub _ (fun _ => tag_setText ..) x hc, text_setText, hne,
          Bool.false_eq_true, if_false, hp, Option.map_some]
  | textList sub conv opt =>
    rw [fp_textList] at hc
    obtain ⟨vs, rfl, ss, ls, ha, hx, hp, hj⟩ := hwt
    refine ⟨onElem sub (·.setText (C.join ls)) x, ?_, ?_⟩
    · unfold writeKind; simp only [ha, hx, Option.map_some]
    · simp only [readKind, elemOf_onElem_clean _ sub _ (fun _ => tag_setText ..) x hc, text_setText, hj rfl,
        read_atoms ha hp]
  | subTextList n conv =>
    obtain ⟨vs, rfl, ss, ls, ha, hx, hp, _⟩ := hwt
    cases vs with
    | nil => exact ⟨x, rfl, read_absent _ x (.inr ⟨n, rfl⟩) hc⟩
    | cons w ws =>
      refine ⟨x.setKids (removeAll n x.kids ++ ls.map fun l => (Xml.empty n).setText l), ?_, ?_⟩
      · unfold writeKind; simp only [ha, hx, Option.map_some]
      · have hnew : ∀ k ∈ ls.map fun l => (Xml.empty n).setText l, k.tag = n := fun k hk => by
          obtain ⟨l, _, rfl⟩ := List.mem_map.mp hk
          exact tag_setText ..
        simp only [readKind, kids_setKids, named_append_clean (named_removeAll_self n x.kids) hnew, mapM'_map,
          text_setText, read_atoms ha hp]
  | sub name decl opt container skipEmpty dispatch dflt =>
    obtain ⟨hname, hv⟩ := hwt
    obtain ⟨n, rfl⟩ := Option.isSome_iff_exists.mp hname
    have hc : named n x.kids = [] := hc
    rcases hv with ⟨rfl, ho, rfl⟩ | ⟨rfl, he, rfl⟩ | ⟨c, fs, rfl, hne, hp, hn⟩
    · exact ⟨x, if_pos ((Bool.or_eq_true ..).mpr ho), read_absent _ x (.inr ⟨n, rfl⟩) hc⟩
    · -- an empty instance that is skipped is the declared default
      cases v with
      | obj c fs => exact ⟨x, by unfold writeKind; simp only [Bool.true_and, he, if_true], read_absent _ x (.inr ⟨n, rfl⟩) hc⟩
      | _ => cases he
    · obtain ⟨ch, t, hw, ht, htag, hr⟩ := nested_roundtrip S (hP c fs hp) hn n
      have hskip : (skipEmpty && (Val.obj c fs).isEmptyObj) = false :=
        Bool.eq_false_iff.mpr fun h => hne (Bool.and_eq_true_iff.mp h)
      refine ⟨x.setKids ((if container || skipEmpty then removeFirst n x.kids else x.kids) ++ [withXsi t ch]), ?_, ?_⟩
      · unfold writeKind; simp only [hskip, Bool.false_eq_true, if_false, hw, ht]
      · have hk : named n (if (container || skipEmpty) = true then removeFirst n x.kids else x.kids) = [] := by
          split
          · rw [removeFirst_of_clean n _ hc, hc]
          · exact hc
        simp only [readKind, elemOf, kids_setKids, firstNamed_eq_head,
          named_append_clean hk (List.forall_mem_singleton.mpr htag), List.head?_cons, hr]
  | subList n decl container dispatch =>
    have hc : named n x.kids = [] := hc
    obtain ⟨vs, rfl, hall⟩ := hwt
    obtain ⟨chs, h1, h2, h3⟩ := items_roundtrip S wr rd P hP n decl container dispatch vs hall
    refine ⟨x.setKids ((if container then removeAll n x.kids else x.kids) ++ chs), ?_, ?_⟩
    · unfold writeKind; simp only [h1, Option.map_some]
    · have hk : named n (if container = true then removeAll n x.kids else x.kids) = [] := by
        split
        · exact named_removeAll_self n _
        · exact hc
      simp only [readKind, kids_setKids, named_append_clean hk h2, h3, Option.map_some]
  | raw sub style opt =>
    rw [fp_raw] at hc
    -- written content lands in an element without children
    have hadd : ∀ xs : List Xml, readKind C S rd (.raw sub style opt)
        (onElem sub (fun e => e.setKids (e.kids ++ xs)) x) = some (.raw xs) := by
      intro xs
      have hb : (baseOf sub x).kids = [] := by
        cases sub with
        | none => exact hc
        | some n => rfl
      simp only [readKind, elemOf_onElem_clean _ sub _ (fun _ => tag_setKids ..) x hc, kids_setKids, hb, List.nil_append]
    have hdrop := clean_dropElem .selfKids sub hc
    cases style with
    | ext =>
      obtain ⟨xs, rfl⟩ := hwt
      cases xs with
      | nil => exact ⟨x, rfl, read_raw_clean sub .ext opt nofun x hc⟩
      | cons a as => exact ⟨_, rfl, hadd _⟩
    | any =>
      rcases hwt with ⟨rfl, rfl, hs⟩ | ⟨xs, rfl⟩
      · obtain ⟨n, rfl⟩ := Option.isSome_iff_exists.mp hs
        exact ⟨dropElem (some n) x, rfl, read_absent (.raw (some n) .any true) _ (.inr ⟨n, rfl⟩) hdrop⟩
      · exact ⟨_, rfl, hadd _⟩
    | anyList =>
      obtain ⟨xs, rfl⟩ := hwt
      cases xs with
      | nil =>
        cases opt with
        | false => exact ⟨x, rfl, read_raw_clean sub .anyList false nofun x hc⟩
        | true => exact ⟨dropElem sub x, rfl, read_raw_clean sub .anyList true nofun _ hdrop⟩
      | cons a as => exact ⟨_, rfl, hadd _⟩

theorem pairwise_cons {f : Fp} {fs : List Fp} (h : pairwiseIndep (f :: fs) = true) :
    (∀ g ∈ fs, f.indep g = true ∧ g.indep f = true) ∧ pairwiseIndep fs = true := by
  simp only [pairwiseIndep, Bool.and_eq_true, List.all_eq_true] at h
  exact h

theorem indep_comm_attr (fp : Fp) (n : Nat) : fp.indep (.attr n) = (Fp.attr n).indep fp := by
  cases fp with
  | attr m => exact bne_comm
  | _ => rfl

theorem writeProps_frame (C : Codec) (S : Schema) (wr : Wr) (hwr : ∀ c fs x x', wr c fs x = some x' → x'.tag = x.tag)
    (ps : List PropE) : ∀ (vs : List Val) (x x' : Xml), writeProps C S wr ps vs x = some x' →
      x'.tag = x.tag ∧ ∀ fp : Fp, (∀ p ∈ ps, fp.indep p.kind.fp = true) → Agree fp x x' := by
  induction ps with
  | nil => intro vs x x' h; cases h; exact ⟨rfl, fun fp _ => Agree.refl fp x⟩
  | cons p ps ih =>
    intro vs x x' h
    cases vs with
    | nil => cases h
    | cons v vs =>
      cases h1 : writeKind C S wr p.kind v x with
      | none => rw [writeProps, h1] at h; cases h
      | some x1 =>
        rw [writeProps, h1] at h
        have f1 := writeKind_frame C S wr hwr p.kind v x x1 h1
        have f2 := ih vs x1 x' h
        exact ⟨f2.1.trans f1.1, fun fp hi =>
          (f1.2 fp (hi p List.mem_cons_self)).trans (f2.2 fp fun q hq => hi q (List.mem_cons_of_mem _ hq))⟩

theorem WTprops_length (C : Codec) (S : Schema) (P : Nat → List Val → Prop) (ps : List PropE) :
    ∀ vs : List Val, WTprops C S P ps vs → vs.length = ps.length := by
  induction ps with
  | nil => intro vs h; cases vs with | nil => rfl | cons _ _ => cases h
  | cons p ps ih => intro vs h; cases vs with | nil => cases h | cons v vs => exact congrArg (· + 1) (ih vs h.2)

theorem props_roundtrip (C : Codec) (S : Schema) (wr : Wr) (rd : Rd) (P : Nat → List Val → Prop)
    (hP : ∀ c fs, P c fs → RTobj wr rd c fs) (hwr : ∀ c fs x x', wr c fs x = some x' → x'.tag = x.tag)
    (ps : List PropE) : ∀ (vs : List Val) (x : Xml), pairwiseIndep (ps.map (·.kind.fp)) = true →
      (∀ p ∈ ps, Clean p.kind.fp x) → WTprops C S P ps vs →
      ∃ x', writeProps C S wr ps vs x = some x' ∧ readProps C S rd ps x' = some vs := by
  induction ps with
  | nil => intro vs x _ _ hwt; cases vs with | nil => exact ⟨x, rfl, rfl⟩ | cons _ _ => cases hwt
  | cons p ps ih =>
    intro vs x hind hcl hwt
    cases vs with
    | nil => cases hwt
    | cons v vs =>
      obtain ⟨hpq, hrest⟩ := pairwise_cons hind
      have hpq : ∀ q ∈ ps, p.kind.fp.indep q.kind.fp = true ∧ q.kind.fp.indep p.kind.fp = true :=
        fun q hq => hpq _ (List.mem_map_of_mem hq)
      obtain ⟨hclp, hclps⟩ := List.forall_mem_cons.mp hcl
      obtain ⟨x1, hw1, hr1⟩ := read_write_kind C S wr rd P hP p.kind v x hclp hwt.1
      -- the first member leaves the footprints of the others clean, and the others leave what it wrote
      have f1 := writeKind_frame C S wr hwr p.kind v x x1 hw1
      obtain ⟨x', hw, hr⟩ := ih vs x1 hrest (fun q hq => Clean.of_agree (f1.2 _ (hpq q hq).2) (hclps q hq)) hwt.2
      have f2 := writeProps_frame C S wr hwr ps vs x1 x' hw
      have hp : readKind C S rd p.kind x' = some v :=
        (readKind_agree C S rd p.kind x1 x' (f2.2 _ fun q hq => (hpq q hq).1)).symm.trans hr1
      refine ⟨x', by rw [writeProps, hw1]; exact hw, ?_⟩
      rw [readProps] at hr ⊢
      rw [mapM', hp, hr]

theorem writeInto_tag (C : Codec) (S : Schema) (f : Nat) : ∀ (c : Nat) (fs : List Val) (x x' : Xml),
    writeInto C S f c fs x = some x' → x'.tag = x.tag := by
  induction f with
  | zero => intro c fs x x' h; cases h
  | succ f ih =>
    intro c fs x x' h
    simp only [writeInto] at h
    split at h
    · exact (writeProps_frame C S (writeInto C S f) ih _ _ _ _ h).1
    · cases h

theorem okCls_props {S : Schema} {c : Nat} (h : S.okCls c = true) :
    pairwiseIndep ((S.props c).map (·.kind.fp)) = true ∧ ∀ p ∈ S.props c, (Fp.attr xsiType).indep p.kind.fp = true := by
  cases hcls : S.cls c with
  | none => simp only [Schema.okCls, hcls, Bool.false_eq_true] at h
  | some e =>
    simp only [Schema.okCls, hcls, ClsE.ok, Bool.and_eq_true, List.all_eq_true] at h
    simpa only [Schema.props, hcls] using h

theorem readProps_congr (C : Codec) (S : Schema) (rd : Rd) (x y : Xml) (ps : List PropE)
    (h : ∀ p ∈ ps, Agree p.kind.fp x y) : readProps C S rd ps x = readProps C S rd ps y :=
  mapM'_congr_mem fun p hp => readKind_agree C S rd p.kind x y (h p hp)

theorem cls_roundtrip (C : Codec) (S : Schema) : ∀ (fuel c : Nat) (fs : List Val), WT C S fuel c fs →
    RTobj (writeInto C S fuel) (readCls C S fuel) c fs
  | 0, _, _, h => h.elim
  | f + 1, c, fs, h => by
    obtain ⟨hok, hwt⟩ := h
    obtain ⟨hpw, hx⟩ := okCls_props hok
    intro n
    -- no member uses the whole node or the `xsi:type` attribute: all footprints are clean in the new element, and
    -- none sees whether `xsi:type` is set
    have hclean : ∀ p ∈ S.props c, Clean p.kind.fp (Xml.empty n) := fun p hp =>
      clean_empty _ (fun e => by have := hx p hp; rw [e] at this; cases this) n
    obtain ⟨ch, hw, hr⟩ := props_roundtrip C S (writeInto C S f) (readCls C S f) (WT C S f)
      (cls_roundtrip C S f) (writeInto_tag C S f) (S.props c) fs (Xml.empty n) hpw hclean hwt
    have hfr := writeProps_frame C S (writeInto C S f) (writeInto_tag C S f) _ _ _ _ hw
    refine ⟨ch, ?_, hfr.1, (hfr.2 (.attr xsiType) hx).symm, fun t => ?_⟩
    · exact (if_pos (WTprops_length C S _ _ _ hwt)).trans hw
    · have := readProps_congr C S (readCls C S f) ch (withXsi t ch) (S.props c) fun p hp =>
        (within_withXsi t ch).2 p.kind.fp ((indep_comm_attr ..).trans (hx p hp))
      exact congrArg (Option.map (Val.obj c)) (this.symm.trans hr)

end Sdc.XmlBinding
