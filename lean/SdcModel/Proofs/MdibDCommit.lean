import SdcModel.Proofs.MdibDCalls
/-!
# the commit invariant `CInv` of a descriptor commit and the table surgery that keeps it: replace / re-index / add / remove
a descriptor, drop a processed item
-/
set_option linter.unusedSimpArgs false
namespace Sdc.Mdib

theorem replaceDescr_handles (t : Tables) (d : Descr) :
    (replaceDescr t d).descrs.map (·.handle) = t.descrs.map (·.handle) := by
  simp only [replaceDescr, List.map_map]
  apply List.map_congr_left
  intro x _
  by_cases e : x.handle = d.handle <;> simp [e]

theorem mem_replaceDescr {t : Tables} {d x : Descr} :
    x ∈ (replaceDescr t d).descrs ↔ (x = d ∧ d.handle ∈ t.descrs.map (·.handle)) ∨ (x ∈ t.descrs ∧ x.handle ≠ d.handle) := by
  simp only [replaceDescr, List.mem_map]
  constructor
  · rintro ⟨y, hy, e⟩
    by_cases e' : y.handle = d.handle
    · simp [e'] at e; exact .inl ⟨e.symm, y, hy, e'⟩
    · simp [e'] at e; subst e; exact .inr ⟨hy, e'⟩
  · rintro (⟨rfl, y, hy, e⟩ | ⟨hx, e⟩)
    · exact ⟨y, hy, by simp [e]⟩
    · exact ⟨x, hx, by simp [e]⟩

theorem mem_reindexDescr {t : Tables} (hn : (t.descrs.map (·.handle)).Nodup) {d : Descr} (hd : d ∈ t.descrs) {x : Descr} :
    x ∈ (reindexDescr t d).descrs ↔ x ∈ t.descrs := by
  simp only [reindexDescr, List.mem_append, List.mem_filter, bne_iff_ne, ne_eq, List.mem_singleton]
  constructor
  · rintro (⟨hx, _⟩ | rfl)
    · exact hx
    · exact hd
  · intro hx
    by_cases e : x.handle = d.handle
    · exact .inr (mem_unique hn hx hd e)
    · exact .inl ⟨hx, e⟩

theorem reindexDescr_nodup {t : Tables} (hn : (t.descrs.map (·.handle)).Nodup) (d : Descr) :
    ((reindexDescr t d).descrs.map (·.handle)).Nodup := by
  simp only [reindexDescr]
  apply nodup_append_single (fun x : Descr => x.handle) (nodup_filter_key _ hn _)
  simp [List.mem_map, List.mem_filter]

/-- removal of the descriptors with a handle in `D` together with their states: what is left -/
structure Removed (D : Handle → Prop) (t t1 : Tables) : Prop where
  descrs : ∀ x, x ∈ t1.descrs ↔ x ∈ t.descrs ∧ ¬ D x.handle
  states : ∀ s, s ∈ t1.states ↔ s ∈ t.states ∧ ¬ D s.dh
  ctx : ∀ x, x ∈ t1.ctx ↔ x ∈ t.ctx ∧ ¬ D x.dh
  dSub : t1.descrs.Sublist t.descrs
  sSub : t1.states.Sublist t.states
  cSub : t1.ctx.Sublist t.ctx
  findS : ∀ h, ¬ D h → findS t1 h = findS t h
  sSaved : ∀ h, ¬ D h → savedGet t1.sSaved h = savedGet t.sSaved h
  findC : ∀ k o, Sdc.Mdib.findC t k = some o → ¬ D o.dh → Sdc.Mdib.findC t1 k = some o
  findCn : ∀ k, Sdc.Mdib.findC t k = none → Sdc.Mdib.findC t1 k = none ∧ savedGet t1.cSaved k = savedGet t.cSaved k

theorem Removed.refl (t : Tables) : Removed (fun _ => False) t t :=
  ⟨by simp, by simp, by simp, List.Sublist.refl _, List.Sublist.refl _, List.Sublist.refl _, fun _ _ => rfl, fun _ _ => rfl,
   fun _ _ h _ => h, fun _ h => ⟨h, rfl⟩⟩

theorem Removed.trans {D1 D2 : Handle → Prop} {a b c : Tables} (h1 : Removed D1 a b) (h2 : Removed D2 b c) :
    Removed (fun x => D1 x ∨ D2 x) a c := by
  refine ⟨?_, ?_, ?_, h2.dSub.trans h1.dSub, h2.sSub.trans h1.sSub, h2.cSub.trans h1.cSub, ?_, ?_, ?_, ?_⟩
  · intro x; rw [h2.descrs, h1.descrs]; simp only [not_or]; exact ⟨fun ⟨⟨a, b⟩, c⟩ => ⟨a, b, c⟩, fun ⟨a, b, c⟩ => ⟨⟨a, b⟩, c⟩⟩
  · intro x; rw [h2.states, h1.states]; simp only [not_or]; exact ⟨fun ⟨⟨a, b⟩, c⟩ => ⟨a, b, c⟩, fun ⟨a, b, c⟩ => ⟨⟨a, b⟩, c⟩⟩
  · intro x; rw [h2.ctx, h1.ctx]; simp only [not_or]; exact ⟨fun ⟨⟨a, b⟩, c⟩ => ⟨a, b, c⟩, fun ⟨a, b, c⟩ => ⟨⟨a, b⟩, c⟩⟩
  · intro h hd; simp only [not_or] at hd; rw [h2.findS h hd.2, h1.findS h hd.1]
  · intro h hd; simp only [not_or] at hd; rw [h2.sSaved h hd.2, h1.sSaved h hd.1]
  · intro k o ho hd; simp only [not_or] at hd; exact h2.findC k o (h1.findC k o ho hd.1) hd.2
  · intro k hk
    obtain ⟨a, b⟩ := h1.findCn k hk
    obtain ⟨a', b'⟩ := h2.findCn k a
    exact ⟨a', b'.trans b⟩

theorem foldl_rmCtx_cSaved (l : List CState) (t : Tables) (k : Handle) (hk : k ∉ l.map (·.h)) :
    savedGet (l.foldl (fun t c => rmCtx t c.h) t).cSaved k = savedGet t.cSaved k := by
  induction l generalizing t with
  | nil => rfl
  | cons c cs ih =>
    simp only [List.map_cons, List.mem_cons, not_or] at hk
    simp only [List.foldl_cons]
    rw [ih _ hk.2, cSaved_rmCtx_ne t hk.1]

theorem foldl_rmCtx_spec (l : List CState) (t : Tables) :
    (l.foldl (fun t c => rmCtx t c.h) t).descrs = t.descrs ∧ (l.foldl (fun t c => rmCtx t c.h) t).states = t.states ∧
    (l.foldl (fun t c => rmCtx t c.h) t).sSaved = t.sSaved ∧ (l.foldl (fun t c => rmCtx t c.h) t).dSaved = t.dSaved ∧
    (l.foldl (fun t c => rmCtx t c.h) t).ctx = t.ctx.filter (fun x => !(l.map (·.h)).contains x.h) := by
  induction l generalizing t with
  | nil => simp only [List.foldl_nil, List.map_nil, List.contains_nil, Bool.not_false, true_and]; exact (List.filter_eq_self.2 (fun _ _ => rfl)).symm
  | cons c cs ih =>
    simp only [List.foldl_cons]
    obtain ⟨a, b, c', d, e⟩ := ih (rmCtx t c.h)
    refine ⟨by simpa using a, by simpa using b, by simpa using c', by simpa using d, ?_⟩
    rw [e, rmCtx_ctx, List.filter_filter]
    apply List.filter_congr
    intro x _
    simp only [List.map_cons, List.contains_cons, Bool.not_or, bne, Bool.and_comm]

theorem removed_one {t : Tables} (hc : (t.ctx.map (·.h)).Nodup) (d : Descr) :
    Removed (fun x => x = d.handle) t (rmDescrAndStates t d) := by
  unfold rmDescrAndStates
  simp only
  obtain ⟨e1, e2, e3, _, e5⟩ := foldl_rmCtx_spec (ctxOf (rmState (rmDescr t d.handle) d.handle) d.handle)
    (rmState (rmDescr t d.handle) d.handle)
  have hctx : ∀ x, x ∈ ((ctxOf (rmState (rmDescr t d.handle) d.handle) d.handle).foldl (fun t c => rmCtx t c.h)
      (rmState (rmDescr t d.handle) d.handle)).ctx ↔ x ∈ t.ctx ∧ ¬ x.dh = d.handle := by
    intro x
    rw [e5]
    simp only [rmState_ctx, rmDescr_ctx, ctxOf, List.mem_filter, Bool.not_eq_true', List.contains_eq_mem, List.mem_map,
      decide_eq_false_iff_not, not_exists, not_and, beq_iff_eq]
    constructor
    · rintro ⟨hx, hne⟩
      exact ⟨hx, fun e => hne x ⟨hx, e⟩ rfl⟩
    · rintro ⟨hx, hne⟩
      refine ⟨hx, ?_⟩
      intro y ⟨hy, hyd⟩ e
      have : y = x := by
        have a := find_of_mem_nodup (fun c : CState => c.h) hc hy
        have b := find_of_mem_nodup (fun c : CState => c.h) hc hx
        rw [e, b] at a; exact (Option.some.inj a).symm
      exact hne (this ▸ hyd)
  refine ⟨?_, ?_, hctx, ?_, ?_, ?_, ?_, ?_, ?_, ?_⟩
  · intro x; rw [e1]; simp [rmDescr_descrs, List.mem_filter]
  · intro s; rw [e2]; simp [rmState_states, List.mem_filter]
  · rw [e1]; simp only [rmState_descrs, rmDescr_descrs]; exact List.filter_sublist
  · rw [e2]; simp only [rmState_states, rmDescr_states]; exact List.filter_sublist
  · rw [e5]; simp only [rmState_ctx, rmDescr_ctx]; exact List.filter_sublist
  · intro h hne
    simp only [findS, e2]
    have := findS_rmState_ne (rmDescr t d.handle) hne
    simp only [findS] at this; rw [this]; simp
  · intro h hne
    rw [e3, sSaved_rmState_ne _ hne]; simp
  · intro k o ho hne
    have hm := (findC_some ho)
    have : o ∈ ((ctxOf (rmState (rmDescr t d.handle) d.handle) d.handle).foldl (fun t c => rmCtx t c.h)
      (rmState (rmDescr t d.handle) d.handle)).ctx := (hctx o).2 ⟨hm.2, hne⟩
    have hn' : ((((ctxOf (rmState (rmDescr t d.handle) d.handle) d.handle).foldl (fun t c => rmCtx t c.h)
      (rmState (rmDescr t d.handle) d.handle)).ctx).map (·.h)).Nodup := by
      rw [e5]; exact nodup_filter_key _ (by simpa using hc) _
    have := find_of_mem_nodup (fun c : CState => c.h) hn' this
    simp only [hm.1] at this
    exact this
  · intro k hk
    have hnk : k ∉ t.ctx.map (·.h) := (find_none_iff (fun c : CState => c.h)).1 hk
    constructor
    · apply (find_none_iff (fun c : CState => c.h)).2
      intro hm
      obtain ⟨x, hx, e⟩ := List.mem_map.1 hm
      exact hnk (List.mem_map.2 ⟨x, ((hctx x).1 hx).1, e⟩)
    · rw [foldl_rmCtx_cSaved]
      · simp
      · intro hm
        obtain ⟨x, hx, e⟩ := List.mem_map.1 hm
        simp only [ctxOf, rmState_ctx, rmDescr_ctx, List.mem_filter] at hx
        exact hnk (List.mem_map.2 ⟨x, hx.1, e⟩)

theorem removed_foldl (l : List Descr) {t : Tables} (hc : (t.ctx.map (·.h)).Nodup) :
    Removed (fun x => x ∈ l.map (·.handle)) t (l.foldl rmDescrAndStates t) := by
  induction l generalizing t with
  | nil =>
    have e : (fun _ : Handle => False) = fun x => x ∈ ([] : List Descr).map (·.handle) :=
      funext fun x => propext (List.mem_nil_iff x).symm
    exact e ▸ Removed.refl t
  | cons d ds ih =>
    have h1 := removed_one hc d
    have e : (fun x => x = d.handle ∨ x ∈ ds.map (·.handle)) = fun x => x ∈ (d :: ds).map (·.handle) :=
      funext fun x => propext List.mem_cons.symm
    exact e ▸ h1.trans (ih ((h1.cSub.map _).nodup hc))

/-- relative to the tables `t₀` the commit started from: descriptor versions only grow (a changed descriptor has a larger
    version), the single and context states are still the original ones (or removed, with their version saved) -/
structure CSeen (t₀ : Tables) (pend : List (Handle × DItem)) (T : Tables) : Prop where
  monoD : ∀ h, seenD t₀ h ≤ seenD T h
  pendSeen : ∀ p ∈ pend, p.2.old = none → seenD T p.1 = seenD t₀ p.1
  seenSeq : ∀ h, seenS T h = seenS t₀ h
  seenCeq : ∀ h, seenC T h = seenC t₀ h
  dChg : ∀ d ∈ T.descrs, ∀ d0 ∈ t₀.descrs, d0.handle = d.handle → d0 = d ∨ d0.ver < d.ver
  sSame : ∀ h s, findS T h = some s → findS t₀ h = some s
  cSame : ∀ h x, findC T h = some x → findC t₀ h = some x

theorem CSeen.init (t : Tables) (hn : (t.descrs.map (·.handle)).Nodup) (pend : List (Handle × DItem)) (v : Nat) :
    CSeen t pend { t with ver := v } :=
  ⟨fun _ => optLe_refl _, fun _ _ _ => rfl, fun _ => rfl, fun _ => rfl,
   fun _ hd _ hd0 e => .inl (mem_unique hn hd0 hd e), fun _ _ h => h, fun _ _ h => h⟩

theorem findD_congr_mem {T : Tables} {L : List Descr} (hm : ∀ x, x ∈ L ↔ x ∈ T.descrs) (hn : (L.map (·.handle)).Nodup)
    (h : Handle) : findD { T with descrs := L } h = findD T h := by
  cases hf : findD T h with
  | none =>
    apply (find_none_iff (fun d : Descr => d.handle)).2
    intro hx
    obtain ⟨x, hx, e⟩ := List.mem_map.1 hx
    exact (find_none_iff (fun d : Descr => d.handle)).1 hf (List.mem_map.2 ⟨x, (hm x).1 hx, e⟩)
  | some d =>
    obtain ⟨e, hd⟩ := findD_some hf
    have := find_of_mem_nodup (fun d : Descr => d.handle) hn ((hm d).2 hd)
    simp only [e] at this
    exact this

theorem CSeen.congr_descrs {t₀ : Tables} {pend : List (Handle × DItem)} {T : Tables} (h : CSeen t₀ pend T) {L : List Descr}
    (hm : ∀ x, x ∈ L ↔ x ∈ T.descrs) (hn : (L.map (·.handle)).Nodup) :
    CSeen t₀ pend { T with descrs := L } := by
  have hs : ∀ k, seenD { T with descrs := L } k = seenD T k := by
    intro k; unfold seenD; rw [findD_congr_mem hm hn]
  exact ⟨fun k => by rw [hs]; exact h.monoD k, fun p hp ho => by rw [hs]; exact h.pendSeen p hp ho, h.seenSeq, h.seenCeq,
    fun d hd => h.dChg d ((hm d).1 hd), h.sSame, h.cSame⟩

theorem findD_replaceDescr {T : Tables} (hn : (T.descrs.map (·.handle)).Nodup) {d d' : Descr} (hd : d ∈ T.descrs)
    (e1 : d'.handle = d.handle) (k : Handle) :
    findD (replaceDescr T d') k = if k = d.handle then some d' else findD T k := by
  have hn' : ((replaceDescr T d').descrs.map (·.handle)).Nodup := by rw [replaceDescr_handles]; exact hn
  by_cases e : k = d.handle
  · simp only [e, if_true]
    have hm : d' ∈ (replaceDescr T d').descrs := mem_replaceDescr.2 (.inl ⟨rfl, e1 ▸ List.mem_map_of_mem hd⟩)
    have := find_of_mem_nodup (fun d : Descr => d.handle) hn' hm
    simp only [e1] at this
    exact this
  · simp only [e, if_false]
    cases hf : findD T k with
    | none =>
      apply (find_none_iff (fun d : Descr => d.handle)).2
      rw [replaceDescr_handles]
      exact (find_none_iff (fun d : Descr => d.handle)).1 hf
    | some x =>
      obtain ⟨ex, hx⟩ := findD_some hf
      have hm : x ∈ (replaceDescr T d').descrs := mem_replaceDescr.2 (.inr ⟨hx, by rw [ex, e1]; exact e⟩)
      have := find_of_mem_nodup (fun d : Descr => d.handle) hn' hm
      simp only [ex] at this
      exact this

theorem CSeen.replace {t₀ : Tables} {pend : List (Handle × DItem)} {T : Tables} (h : CSeen t₀ pend T)
    (hn : (T.descrs.map (·.handle)).Nodup) {d d' : Descr} (hd : d ∈ T.descrs) (e1 : d'.handle = d.handle)
    (hv : ∀ d0 ∈ t₀.descrs, d0.handle = d.handle → d0.ver < d'.ver) (hv2 : findD t₀ d.handle = none → d.ver ≤ d'.ver)
    (hp : ∀ p ∈ pend, p.2.old = none → p.1 ≠ d.handle) : CSeen t₀ pend (replaceDescr T d') := by
  have hs : ∀ k, k ≠ d.handle → seenD (replaceDescr T d') k = seenD T k := by
    intro k hk; unfold seenD; rw [findD_replaceDescr hn hd e1, if_neg hk]; rfl
  have hs' : seenD (replaceDescr T d') d.handle = some d'.ver := by
    unfold seenD; rw [findD_replaceDescr hn hd e1, if_pos rfl]
  have hsd : seenD T d.handle = some d.ver := by
    unfold seenD
    have := find_of_mem_nodup (fun d : Descr => d.handle) hn hd
    rw [show findD T d.handle = some d from this]
  refine ⟨?_, ?_, h.seenSeq, h.seenCeq, ?_, h.sSame, h.cSame⟩
  · intro k
    by_cases e : k = d.handle
    · subst e; rw [hs']
      cases hf : findD t₀ d.handle with
      | none =>
        refine optLe_trans (h.monoD _) ?_
        rw [hsd]; simpa using hv2 hf
      | some d0 =>
        obtain ⟨e0, hd0⟩ := findD_some hf
        simp only [seenD, hf, Option.some_le_some]
        exact Nat.le_of_lt (hv d0 hd0 e0)
    · rw [hs k e]; exact h.monoD k
  · intro p hp' ho; rw [hs _ (hp p hp' ho)]; exact h.pendSeen p hp' ho
  · intro x hx d0 hd0 e
    rcases mem_replaceDescr.1 hx with ⟨rfl, _⟩ | ⟨hx, _⟩
    · exact .inr (hv d0 hd0 (e.trans e1))
    · exact h.dChg x hx d0 hd0 e

/-- a single-state item of the running commit, seen over the current tables `T`; `st` = descriptors whose version is about to
    change / was just changed and whose states have not been followed up yet; `pend` = descriptor items not yet processed -/
structure SIok (del : List Handle) (pend : List (Handle × DItem)) (st : Handle → Prop) (T : Tables) (p : Handle × SItem) : Prop where
  dh : p.2.new.dh = p.1
  old : p.2.old = findS T p.1
  kind : p.2.new.kind ≠ .context
  nd : p.1 ∉ del
  bump : (∀ o, findS T p.1 = some o → o.sv < p.2.new.sv) ∧ (findS T p.1 = none → savedGet T.sSaved p.1 ≤ some p.2.new.sv)
  ref : (∃ d ∈ T.descrs, d.handle = p.1 ∧ d.kind ≠ .context ∧ (¬ st p.1 → d.ver = p.2.new.dv)) ∨
        (∃ n, (p.1, (⟨none, some n⟩ : DItem)) ∈ pend ∧ n.kind ≠ .context)

/-- a context-state item of the running commit. `stc dh h`: the link of state `h` to descriptor `dh` is stale; `CInv` always passes
    `fun a _ => st a`, the state argument is needed only inside the loop of `_update_corresponding_state` (`uc_loop`) -/
structure CIok (tx₀ : DTx) (del : List Handle) (pend : List (Handle × DItem)) (stc : Handle → Handle → Prop) (T : Tables)
    (p : Handle × CItem) : Prop where
  old : p.2.old = findC T p.1
  odh : ∀ o ∈ p.2.old, o.dh ∉ del
  new : ∀ n ∈ p.2.new, n.h = p.1 ∧ n.dh ∉ del ∧ (∀ o ∈ p.2.old, o.dh = n.dh) ∧
    ((∀ o, findC T p.1 = some o → o.sv < n.sv) ∧ (findC T p.1 = none → savedGet T.cSaved p.1 ≤ some n.sv)) ∧
    ((∃ d ∈ T.descrs, d.handle = n.dh ∧ d.kind = .context ∧ (¬ stc n.dh p.1 → d.ver = n.dv)) ∨
     (∃ m, (n.dh, (⟨none, some m⟩ : DItem)) ∈ pend ∧ m.kind = .context))
  /-- a context state that is new in this transaction was written together with its descriptor and has its new version -/
  fresh : p.2.old = none → ∀ n ∈ p.2.new, ∃ it m, (n.dh, it) ∈ tx₀.descr ∧ it.new = some m ∧ n.dv = m.ver

/-- the version link of a context state of the table (`stc dh h`: stale; second argument as for `CIok`) -/
def CRef (stc : Handle → Handle → Prop) (T : Tables) (X : DTx) (x : CState) : Prop :=
  ∃ d ∈ T.descrs, d.handle = x.dh ∧ d.kind = .context ∧ (x.h ∉ X.cItems.map (·.1) → ¬ stc x.dh x.h → d.ver = x.dv)

/-- The invariant of a running descriptor commit. `t₀`, `tx₀`: tables and transaction the commit started from; `del`: handles
    that will disappear; `pend`: descriptor items not yet processed; `st`: descriptors whose states have not followed their new
    version yet; `T`: current tables; `X`: the transaction with the state items added so far.
    Keys: `dKeys`, `sKeys`, `cKeys`, `siKeys`, `ciKeys`. Descriptors: `dOld` parent / kind / mds as in `t₀` (not the `DTxOK.dOld`
    meaning), `dSurv` what is not to be deleted is still there, `dUp` nothing kept hangs below a handle of `del`, `dPar` parents
    exist or are pending creations, `pendFresh` / `creDone` a creation is pending or done, never both. Version links: `sRef`,
    `cRef` for the states of the tables, `si`, `ci` for the items (`SIok`, `CIok`). `seen`: counters against `t₀` (`CSeen`). -/
structure CInv (t₀ : Tables) (tx₀ : DTx) (del : List Handle) (pend : List (Handle × DItem)) (st : Handle → Prop)
    (T : Tables) (X : DTx) : Prop where
  dKeys : (T.descrs.map (·.handle)).Nodup
  sKeys : (T.states.map (·.dh)).Nodup
  cKeys : (T.ctx.map (·.h)).Nodup
  dOld : ∀ d ∈ T.descrs, ∀ d0 ∈ t₀.descrs, d0.handle = d.handle → d0.parent = d.parent ∧ d0.kind = d.kind ∧ d0.mds = d.mds
  dSurv : ∀ d0 ∈ t₀.descrs, d0.handle ∉ del → d0.handle ∈ T.descrs.map (·.handle)
  dUp : ∀ d ∈ T.descrs, d.handle ∉ del → ∀ p ∈ d.parent, p ∉ del
  dPar : ∀ d ∈ T.descrs, ∀ p ∈ d.parent, p ∈ T.descrs.map (·.handle) ∨ ∃ n, (p, (⟨none, some n⟩ : DItem)) ∈ pend
  pendFresh : ∀ p ∈ pend, p.2.old = none → p.1 ∉ T.descrs.map (·.handle)
  creDone : ∀ p ∈ tx₀.descr, p.2.old = none → p ∈ pend ∨ p.1 ∈ T.descrs.map (·.handle)
  sRef : ∀ s ∈ T.states, s.kind ≠ .context ∧ ∃ d ∈ T.descrs, d.handle = s.dh ∧ d.kind ≠ .context ∧
    (s.dh ∉ X.sItems.map (·.1) → ¬ st s.dh → d.ver = s.dv)
  cRef : ∀ x ∈ T.ctx, CRef (fun a _ => st a) T X x
  siKeys : (X.sItems.map (·.1)).Nodup
  si : ∀ p ∈ X.sItems, SIok del pend st T p
  ciKeys : (X.cItems.map (·.1)).Nodup
  ci : ∀ p ∈ X.cItems, CIok tx₀ del pend (fun a _ => st a) T p
  seen : CSeen t₀ pend T
  /-- an item without old state: there was no such state when the transaction started -/
  siOld0 : ∀ p ∈ X.sItems, p.2.old = none → findS t₀ p.1 = none
  ciOld0 : ∀ p ∈ X.cItems, p.2.old = none → findC t₀ p.1 = none
  /-- no item deletes a context state unless the transaction as collected did (`write_entity` without a state) -/
  ciNoDel : (∀ p ∈ tx₀.cItems, p.2.new ≠ none) → ∀ p ∈ X.cItems, p.2.new ≠ none

variable {t₀ : Tables} {tx₀ : DTx} {del : List Handle} {pend : List (Handle × DItem)} {st : Handle → Prop} {T : Tables} {X : DTx}

theorem CInv.refsS (h : CInv t₀ tx₀ del pend st T X) {L : List Descr} {pend' : List (Handle × DItem)} {st' : Handle → Prop}
    (hL : ∀ d ∈ T.descrs, d.kind ≠ .context →
      ∃ d' ∈ L, d'.handle = d.handle ∧ d'.kind = d.kind ∧ (¬ st' d.handle → ¬ st d.handle ∧ d'.ver = d.ver))
    (hp : ∀ a n, (a, (⟨none, some n⟩ : DItem)) ∈ pend → n.kind ≠ .context →
      (a, (⟨none, some n⟩ : DItem)) ∈ pend' ∨ (st' a ∧ ∃ d' ∈ L, d'.handle = a ∧ d'.kind = n.kind)) :
    (∀ s ∈ T.states, s.kind ≠ .context ∧ ∃ d ∈ L, d.handle = s.dh ∧ d.kind ≠ .context ∧
      (s.dh ∉ X.sItems.map (·.1) → ¬ st' s.dh → d.ver = s.dv)) ∧
    (∀ p ∈ X.sItems, SIok del pend' st' { T with descrs := L } p) := by
  constructor
  · intro s hs
    obtain ⟨k, d, hd, e1, e2, e3⟩ := h.sRef s hs
    obtain ⟨d', hd', a, b, c⟩ := hL d hd e2
    rw [e1] at a c
    refine ⟨k, d', hd', a, by rw [b]; exact e2, fun hk hst => ?_⟩
    rw [(c hst).2]; exact e3 hk (c hst).1
  · intro p hp'
    have := h.si p hp'
    refine ⟨this.dh, this.old, this.kind, this.nd, this.bump, ?_⟩
    rcases this.ref with ⟨d, hd, e1, e2, e3⟩ | ⟨n, hn, kn⟩
    · obtain ⟨d', hd', a, b, c⟩ := hL d hd e2
      rw [e1] at a c
      refine .inl ⟨d', hd', a, by rw [b]; exact e2, fun hst => ?_⟩
      rw [(c hst).2]; exact e3 (c hst).1
    · rcases hp _ n hn kn with a | ⟨a, d', hd', b, c⟩
      · exact .inr ⟨n, a, kn⟩
      · exact .inl ⟨d', hd', b, by rw [c]; exact kn, fun hst => absurd a hst⟩

theorem CInv.refsC (h : CInv t₀ tx₀ del pend st T X) {L : List Descr} {pend' : List (Handle × DItem)} {st' : Handle → Prop}
    (hL : ∀ d ∈ T.descrs, d.kind = .context →
      ∃ d' ∈ L, d'.handle = d.handle ∧ d'.kind = d.kind ∧ (¬ st' d.handle → ¬ st d.handle ∧ d'.ver = d.ver))
    (hp : ∀ a n, (a, (⟨none, some n⟩ : DItem)) ∈ pend → n.kind = .context →
      (a, (⟨none, some n⟩ : DItem)) ∈ pend' ∨ (st' a ∧ ∃ d' ∈ L, d'.handle = a ∧ d'.kind = n.kind)) :
    (∀ x ∈ T.ctx, CRef (fun a _ => st' a) { T with descrs := L } X x) ∧
    (∀ p ∈ X.cItems, CIok tx₀ del pend' (fun a _ => st' a) { T with descrs := L } p) := by
  constructor
  · intro x hx
    obtain ⟨d, hd, e1, e2, e3⟩ := h.cRef x hx
    obtain ⟨d', hd', a, b, c⟩ := hL d hd e2
    rw [e1] at a c
    refine ⟨d', hd', a, by rw [b]; exact e2, fun hk hst => ?_⟩
    rw [(c hst).2]; exact e3 hk (c hst).1
  · intro p hp'
    have := h.ci p hp'
    refine ⟨this.old, this.odh, fun n hn => ?_, this.fresh⟩
    obtain ⟨a0, b0, c0, d0, e0⟩ := this.new n hn
    refine ⟨a0, b0, c0, d0, ?_⟩
    rcases e0 with ⟨d, hd, e1, e2, e3⟩ | ⟨m, hm, km⟩
    · obtain ⟨d', hd', a, b, c⟩ := hL d hd e2
      rw [e1] at a c
      refine .inl ⟨d', hd', a, by rw [b]; exact e2, fun hst => ?_⟩
      rw [(c hst).2]; exact e3 (c hst).1
    · rcases hp _ m hm km with a | ⟨a, d', hd', b, c⟩
      · exact .inr ⟨m, a, km⟩
      · exact .inl ⟨d', hd', b, by rw [c]; exact km, fun hst => absurd a hst⟩

theorem CInv.refs (h : CInv t₀ tx₀ del pend st T X) {L : List Descr} {pend' : List (Handle × DItem)} {st' : Handle → Prop}
    (hL : ∀ d ∈ T.descrs, ∃ d' ∈ L, d'.handle = d.handle ∧ d'.kind = d.kind ∧ (¬ st' d.handle → ¬ st d.handle ∧ d'.ver = d.ver))
    (hp : ∀ a n, (a, (⟨none, some n⟩ : DItem)) ∈ pend →
      (a, (⟨none, some n⟩ : DItem)) ∈ pend' ∨ (st' a ∧ ∃ d' ∈ L, d'.handle = a ∧ d'.kind = n.kind)) :
    (∀ s ∈ T.states, s.kind ≠ .context ∧ ∃ d ∈ L, d.handle = s.dh ∧ d.kind ≠ .context ∧
      (s.dh ∉ X.sItems.map (·.1) → ¬ st' s.dh → d.ver = s.dv)) ∧
    (∀ x ∈ T.ctx, CRef (fun a _ => st' a) { T with descrs := L } X x) ∧
    (∀ p ∈ X.sItems, SIok del pend' st' { T with descrs := L } p) ∧
    (∀ p ∈ X.cItems, CIok tx₀ del pend' (fun a _ => st' a) { T with descrs := L } p) :=
  have S := h.refsS (fun d hd _ => hL d hd) (fun a n hn _ => hp a n hn)
  have C := h.refsC (fun d hd _ => hL d hd) (fun a n hn _ => hp a n hn)
  ⟨S.1, C.1, S.2, C.2⟩

theorem CInv.mono_st {st' : Handle → Prop} (h : CInv t₀ tx₀ del pend st T X) (hst : ∀ x, st x → st' x) :
    CInv t₀ tx₀ del pend st' T X := by
  obtain ⟨r1, r2, r3, r4⟩ := h.refs (L := T.descrs) (pend' := pend) (st' := st')
    (fun d hd => ⟨d, hd, rfl, rfl, fun hn => ⟨fun hx => hn (hst _ hx), rfl⟩⟩) (fun _ _ hn => .inl hn)
  exact { h with sRef := r1, cRef := r2, si := r3, ci := r4 }

theorem CInv.congr_descrs (h : CInv t₀ tx₀ del pend st T X) {L : List Descr} (hm : ∀ x, x ∈ L ↔ x ∈ T.descrs)
    (hn : (L.map (·.handle)).Nodup) : CInv t₀ tx₀ del pend st { T with descrs := L } X := by
  have hh : ∀ a, a ∈ L.map (·.handle) ↔ a ∈ T.descrs.map (·.handle) := by
    intro a; simp only [List.mem_map]
    exact ⟨fun ⟨x, hx, e⟩ => ⟨x, (hm x).1 hx, e⟩, fun ⟨x, hx, e⟩ => ⟨x, (hm x).2 hx, e⟩⟩
  obtain ⟨r1, r2, r3, r4⟩ := h.refs (L := L) (pend' := pend) (st' := st)
    (fun d hd => ⟨d, (hm d).2 hd, rfl, rfl, fun hn => ⟨hn, rfl⟩⟩) (fun _ _ hn => .inl hn)
  refine ⟨hn, h.sKeys, h.cKeys, ?_, ?_, ?_, ?_, ?_, ?_, r1, r2, h.siKeys, r3, h.ciKeys, r4, h.seen.congr_descrs hm hn, h.siOld0,
    h.ciOld0, h.ciNoDel⟩
  · intro d hd; exact h.dOld d ((hm d).1 hd)
  · intro d0 hd0 hnd; exact (hh _).2 (h.dSurv d0 hd0 hnd)
  · intro d hd; exact h.dUp d ((hm d).1 hd)
  · intro d hd p hp
    rcases h.dPar d ((hm d).1 hd) p hp with a | a
    · exact .inl ((hh _).2 a)
    · exact .inr a
  · intro p hp ho hx; exact h.pendFresh p hp ho ((hh _).1 hx)
  · intro p hp ho
    rcases h.creDone p hp ho with a | a
    · exact .inl a
    · exact .inr ((hh _).2 a)

theorem CInv.reindex (h : CInv t₀ tx₀ del pend st T X) {d : Descr} (hd : d ∈ T.descrs) :
    CInv t₀ tx₀ del pend st (reindexDescr T d) X :=
  h.congr_descrs (fun _ => mem_reindexDescr h.dKeys hd) (reindexDescr_nodup h.dKeys d)

/-- `update_from_other_container` / the version bump of a parent: same handle, parent, kind; the states of the descriptor
    become stale -/
theorem CInv.replace (h : CInv t₀ tx₀ del pend st T X) {d d' : Descr} (hd : d ∈ T.descrs) (e1 : d'.handle = d.handle)
    (e2 : d'.parent = d.parent) (e3 : d'.kind = d.kind) (e4 : d'.mds = d.mds)
    (hv : ∀ d0 ∈ t₀.descrs, d0.handle = d.handle → d0.ver < d'.ver) (hv2 : findD t₀ d.handle = none → d.ver ≤ d'.ver) :
    CInv t₀ tx₀ del pend (fun x => st x ∨ x = d.handle) (replaceDescr T d') X := by
  have hmem : ∀ x, x ∈ (replaceDescr T d').descrs ↔ x = d' ∨ (x ∈ T.descrs ∧ x.handle ≠ d.handle) := by
    intro x; rw [mem_replaceDescr, e1]
    constructor
    · rintro (⟨a, _⟩ | a)
      · exact .inl a
      · exact .inr a
    · rintro (a | a)
      · exact .inl ⟨a, List.mem_map_of_mem hd⟩
      · exact .inr a
  obtain ⟨r1, r2, r3, r4⟩ := h.refs (L := (replaceDescr T d').descrs) (pend' := pend) (st' := fun x => st x ∨ x = d.handle)
    (fun x hx => by
      by_cases e : x.handle = d.handle
      · refine ⟨d', (hmem _).2 (.inl rfl), e1.trans e.symm, ?_, fun hn => absurd (.inr e) hn⟩
        rw [e3, mem_unique h.dKeys hx hd e]
      · exact ⟨x, (hmem _).2 (.inr ⟨hx, e⟩), rfl, rfl, fun hn => ⟨fun hs => hn (.inl hs), rfl⟩⟩)
    (fun _ _ hn => .inl hn)
  have hh := replaceDescr_handles T d'
  refine ⟨by rw [hh]; exact h.dKeys, h.sKeys, h.cKeys, ?_, by rw [hh]; exact h.dSurv, ?_, ?_, by rw [hh]; exact h.pendFresh,
    by rw [hh]; exact h.creDone, r1, r2, h.siKeys, r3, h.ciKeys, r4,
    h.seen.replace h.dKeys hd e1 hv hv2 (fun p hp ho e => h.pendFresh p hp ho (e ▸ List.mem_map_of_mem hd)), h.siOld0, h.ciOld0, h.ciNoDel⟩
  · intro x hx d0 hd0 e
    rcases (hmem x).1 hx with rfl | ⟨hx, _⟩
    · rw [e2, e3, e4]; exact h.dOld d hd d0 hd0 (e.trans e1)
    · exact h.dOld x hx d0 hd0 e
  · intro x hx hnd p hp
    rcases (hmem x).1 hx with rfl | ⟨hx, _⟩
    · rw [e2] at hp; rw [e1] at hnd; exact h.dUp d hd hnd p hp
    · exact h.dUp x hx hnd p hp
  · intro x hx p hp
    rw [hh]
    rcases (hmem x).1 hx with rfl | ⟨hx, _⟩
    · rw [e2] at hp; exact h.dPar d hd p hp
    · exact h.dPar x hx p hp

theorem hasNew_not_del {t : Tables} {tx : DTx} {del : List Handle} (hi : DTxOK t tx) (hs : DStatic t tx del) {H : Handle}
    {Q : Descr → Prop} (h : HasNew tx.descr H Q) : H ∉ del := by
  obtain ⟨it, m, hm, e, _⟩ := h
  obtain ⟨old, new⟩ := it
  simp only at e; subst e
  cases old with
  | none =>
    intro hd
    obtain ⟨d, hd', e⟩ := hs.delSub _ hd
    have := hi.dOld _ hm
    exact (find_none_iff (fun d : Descr => d.handle)).1 this.symm (e ▸ List.mem_map_of_mem hd')
  | some o => exact hs.updNotDel _ hm o m rfl

theorem hasNew_ref {t : Tables} {tx : DTx} (hi : DTxOK t tx) {H : Handle} {Q : Descr → Prop} (h : HasNew tx.descr H Q) {v : Nat}
    {K : Kind → Prop} (hK : ∀ m, Q m → K m.kind) :
    (∃ d ∈ t.descrs, d.handle = H ∧ K d.kind ∧ (¬ (∃ o n, (H, (⟨some o, some n⟩ : DItem)) ∈ tx.descr) → d.ver = v)) ∨
    (∃ m, (H, (⟨none, some m⟩ : DItem)) ∈ tx.descr ∧ K m.kind) := by
  obtain ⟨it, m, hm, e, q⟩ := h
  obtain ⟨old, new⟩ := it
  simp only at e; subst e
  cases old with
  | none => exact .inr ⟨m, hm, hK m q⟩
  | some o =>
    left
    have := hi.dOld _ hm
    obtain ⟨eh, hod⟩ := findD_some this.symm
    refine ⟨o, hod, eh, ?_, fun hn => absurd ⟨o, m, hm⟩ hn⟩
    rw [← (hi.dUpd _ hm o rfl m rfl).1]; exact hK m q

theorem CInv.init {t : Tables} (hw : WF t) (hk : KOK t) {tx : DTx} (hi : DTxOK t tx) {del : List Handle}
    (hs : DStatic t tx del) (v : Nat) :
    CInv t tx del tx.descr (fun x => ∃ o n, (x, (⟨some o, some n⟩ : DItem)) ∈ tx.descr) { t with ver := v } tx := by
  refine ⟨hw.dKeys, hw.sKeys, hw.cKeys, ?_, ?_, ?_, ?_, ?_, ?_, ?_, ?_, hi.sKeys, ?_, hi.cKeys, ?_, CSeen.init t hw.dKeys _ v,
    fun p hp ho => by rw [← hi.sOld p hp]; exact ho, fun p hp ho => by rw [← hi.cOld p hp]; exact ho, fun h => h⟩
  · intro d hd d0 hd0 e
    rw [mem_unique hw.dKeys hd0 hd e]; exact ⟨rfl, rfl, rfl⟩
  · intro d0 hd0 _; exact List.mem_map_of_mem hd0
  · intro d hd hnd p hp hpd
    exact hnd (hs.delClosed p hpd d hd hp)
  · intro d hd p hp
    obtain ⟨q, hq, e⟩ := hw.parent d hd p hp
    exact .inl (e ▸ List.mem_map_of_mem hq)
  · intro p hp ho
    have := hi.dOld p hp
    rw [ho] at this
    exact (find_none_iff (fun d : Descr => d.handle)).1 this.symm
  · intro p hp _; exact .inl hp
  · intro s hs'
    obtain ⟨d, hd, e1, e2⟩ := hw.sRef s hs'
    exact ⟨hk.kS s hs', d, hd, e1, hk.kSD s hs' d hd e1, fun _ _ => e2⟩
  · intro x hx
    obtain ⟨d, hd, e1, e2⟩ := hw.cRef x hx
    exact ⟨d, hd, e1, hk.kCD x hx d hd e1, fun _ _ => e2⟩
  · intro p hp
    exact ⟨hi.sDh p hp, hi.sOld p hp, hi.sKind p hp, hasNew_not_del hi hs (hi.sDescr p hp), hi.sBump p hp,
      hasNew_ref hi (hi.sDescr p hp) (K := fun k => k ≠ .context) (fun _ q => q)⟩
  · intro p hp
    refine ⟨hi.cOld p hp, fun o ho => hasNew_not_del hi hs (hi.cOdh p hp o ho), ?_, ?_⟩
    · intro n hn
      obtain ⟨a, b, c, e⟩ := hi.cNew p hp n hn
      exact ⟨a, hasNew_not_del hi hs e, b, c, hasNew_ref hi e (K := fun k => k = .context) (fun _ q => q.1)⟩
    · intro _ n hn
      obtain ⟨_, _, _, it, m, hm, e, q⟩ := hi.cNew p hp n hn
      exact ⟨it, m, hm, e, q.2⟩

/-- `add_object_no_lock` of a created descriptor: its (future) states are stale until `_update_corresponding_state` -/
theorem CSeen.add {T : Tables} {hh : Handle} {n : Descr} (h : CSeen t₀ ((hh, ⟨none, some n⟩) :: pend) T)
    (hnh : n.handle = hh) (hfresh : hh ∉ T.descrs.map (·.handle)) (hnot₀ : hh ∉ t₀.descrs.map (·.handle))
    (hver : savedGet t₀.dSaved hh ≤ some n.ver) (hkeys : hh ∉ pend.map (·.1)) :
    CSeen t₀ pend { T with descrs := T.descrs ++ [n] } := by
  have hfn : findD T hh = none := (find_none_iff (fun d : Descr => d.handle)).2 hfresh
  have hs : ∀ k, k ≠ hh → seenD { T with descrs := T.descrs ++ [n] } k = seenD T k := by
    intro k hk
    unfold seenD
    rw [findD_append]
    have : ¬ n.handle = k := fun e => hk (e.symm.trans hnh)
    simp [this]
  have hs' : seenD { T with descrs := T.descrs ++ [n] } hh = some n.ver := by
    unfold seenD
    rw [findD_append, hfn]; simp [hnh]
  refine ⟨?_, ?_, h.seenSeq, h.seenCeq, ?_, h.sSame, h.cSame⟩
  · intro k
    by_cases e : k = hh
    · subst e; rw [hs']
      have : findD t₀ k = none := (find_none_iff (fun d : Descr => d.handle)).2 hnot₀
      simp only [seenD, this]; exact hver
    · rw [hs k e]; exact h.monoD k
  · intro p hp ho
    have hne : p.1 ≠ hh := fun e => hkeys (e ▸ List.mem_map_of_mem hp)
    rw [hs _ hne]; exact h.pendSeen p (by simp [hp]) ho
  · intro d hd d0 hd0 e
    simp only [List.mem_append, List.mem_singleton] at hd
    rcases hd with hd | rfl
    · exact h.dChg d hd d0 hd0 e
    · exact absurd (by rw [← hnh, ← e]; exact List.mem_map_of_mem hd0) hnot₀

theorem CInv.add {T : Tables} {X : DTx} {hh : Handle} {n : Descr}
    (h : CInv t₀ tx₀ del ((hh, ⟨none, some n⟩) :: pend) st T X) (hi : DTxOK t₀ tx₀) (hs : DStatic t₀ tx₀ del)
    (hmem : (hh, (⟨none, some n⟩ : DItem)) ∈ tx₀.descr) (hkeys : (((hh, (⟨none, some n⟩ : DItem)) :: pend).map (·.1)).Nodup) :
    addDescr T n = .ok { T with descrs := T.descrs ++ [n] } ∧
      CInv t₀ tx₀ del pend (fun x => st x ∨ x = hh) { T with descrs := T.descrs ++ [n] } X := by
  have hnh : n.handle = hh := hi.dNew _ hmem n rfl
  have hfresh : hh ∉ T.descrs.map (·.handle) := h.pendFresh (hh, ⟨none, some n⟩) (by simp) rfl
  have hnot₀ : hh ∉ t₀.descrs.map (·.handle) := by
    have := hi.dOld _ hmem
    exact (find_none_iff (fun d : Descr => d.handle)).1 this.symm
  have hnd : hh ∉ del := fun hd => by
    obtain ⟨d, hd', e⟩ := hs.delSub _ hd
    exact hnot₀ (e ▸ List.mem_map_of_mem hd')
  simp only [List.map_cons, List.nodup_cons] at hkeys
  have hmemL : ∀ x, x ∈ T.descrs ++ [n] ↔ x ∈ T.descrs ∨ x = n := by intro x; simp
  have hhL : ∀ a, a ∈ (T.descrs ++ [n]).map (·.handle) ↔ a ∈ T.descrs.map (·.handle) ∨ a = hh := by
    intro a; simp [hnh, eq_comm]
  constructor
  · rw [addDescr_ok_iff]
    exact ⟨(find_none_iff (fun d : Descr => d.handle)).2 (by rw [hnh]; exact hfresh), rfl⟩
  obtain ⟨r1, r2, r3, r4⟩ := h.refs (L := T.descrs ++ [n]) (pend' := pend) (st' := fun x => st x ∨ x = hh)
    (fun d hd => ⟨d, (hmemL d).2 (.inl hd), rfl, rfl, fun hn => ⟨fun hs => hn (.inl hs), rfl⟩⟩)
    (fun a m hm => by
      rcases List.mem_cons.1 hm with e | hm
      · obtain ⟨e1, e2⟩ := Prod.mk.inj e
        have : m = n := by simpa using e2
        exact .inr ⟨.inr e1, n, (hmemL n).2 (.inr rfl), hnh.trans e1.symm, by rw [this]⟩
      · exact .inl hm)
  refine ⟨?_, h.sKeys, h.cKeys, ?_, ?_, ?_, ?_, ?_, ?_, r1, r2, h.siKeys, r3, h.ciKeys, r4,
    h.seen.add hnh hfresh hnot₀ (hi.dCre _ hmem rfl n rfl) hkeys.1, h.siOld0, h.ciOld0, h.ciNoDel⟩
  · exact nodup_append_single (fun d : Descr => d.handle) h.dKeys (by rw [hnh]; exact hfresh)
  · intro d hd d0 hd0 e
    rcases (hmemL d).1 hd with hd | rfl
    · exact h.dOld d hd d0 hd0 e
    · exact absurd (by rw [← hnh, ← e]; exact List.mem_map_of_mem hd0) hnot₀
  · intro d0 hd0 hnd0; exact (hhL _).2 (.inl (h.dSurv d0 hd0 hnd0))
  · intro d hd hdd p hp
    rcases (hmemL d).1 hd with hd | rfl
    · exact h.dUp d hd hdd p hp
    · rcases hs.crePar _ hmem d rfl p hp with ⟨m, hm⟩ | ⟨hpd, _⟩
      · intro hpd
        obtain ⟨d', hd', e⟩ := hs.delSub _ hpd
        have := hi.dOld _ hm
        exact (find_none_iff (fun d : Descr => d.handle)).1 this.symm (e ▸ List.mem_map_of_mem hd')
      · exact hpd
  · intro d hd p hp
    have key : ∀ m, (p, (⟨none, some m⟩ : DItem)) ∈ (hh, (⟨none, some n⟩ : DItem)) :: pend →
        p ∈ (T.descrs ++ [n]).map (·.handle) ∨ ∃ m, (p, (⟨none, some m⟩ : DItem)) ∈ pend := by
      intro m hm
      rcases List.mem_cons.1 hm with e | hm
      · left; rw [hhL]; right; exact (Prod.mk.inj e).1
      · exact .inr ⟨m, hm⟩
    rcases (hmemL d).1 hd with hd | rfl
    · rcases h.dPar d hd p hp with a | ⟨m, hm⟩
      · exact .inl ((hhL _).2 (.inl a))
      · exact key m hm
    · rcases hs.crePar _ hmem d rfl p hp with ⟨m, hm⟩ | ⟨hpd, d0, hd0, e⟩
      · rcases h.creDone _ hm rfl with a | a
        · exact key m a
        · exact .inl ((hhL _).2 (.inl a))
      · exact .inl ((hhL _).2 (.inl (e ▸ h.dSurv d0 hd0 (e ▸ hpd))))
  · intro p hp ho hx
    rcases (hhL _).1 hx with a | a
    · exact h.pendFresh p (by simp [hp]) ho a
    · exact hkeys.1 (a ▸ List.mem_map_of_mem hp)
  · intro p hp ho
    rcases h.creDone p hp ho with a | a
    · rcases List.mem_cons.1 a with e | a
      · right; rw [hhL]; right; rw [e]
      · exact .inl a
    · exact .inr ((hhL _).2 (.inl a))

theorem CInv.sub_del {T : Tables} {X : DTx} (h : CInv t₀ tx₀ del pend st T X) :
    ∀ (k : Nat) (q : Handle), q ∈ del → ∀ x ∈ subtreeBelow T k q, x.handle ∈ del := by
  intro k
  induction k with
  | zero => intro q _ x hx; simp [subtreeBelow] at hx
  | succ k ih =>
    intro q hq x hx
    have hchild : ∀ y ∈ childrenOf T q, y.handle ∈ del := by
      intro y hy
      obtain ⟨hy1, hy2⟩ := mem_childrenOf.1 hy
      exact Decidable.byContradiction (fun hn => h.dUp y hy1 hn q hy2 hq)
    rcases mem_subtreeBelow_succ.1 hx with hx | ⟨c, hc, hx⟩
    · exact hchild x hx
    · exact ih c.handle (hchild c hc) x hx

/-- `rm_descriptors_and_states` of the subtree of a deleted descriptor -/
theorem CInv.delete {T : Tables} {X : DTx} (h : CInv t₀ tx₀ del pend st T X) (hi : DTxOK t₀ tx₀) (hs : DStatic t₀ tx₀ del)
    {o : Descr} (hod : o.handle ∈ del) :
    CInv t₀ tx₀ del pend st ((subtreeBelow T (T.descrs.length + 1) o.handle ++ [o]).foldl rmDescrAndStates T) X := by
  have R := removed_foldl (subtreeBelow T (T.descrs.length + 1) o.handle ++ [o]) h.cKeys
  have hD : ∀ a, a ∈ (subtreeBelow T (T.descrs.length + 1) o.handle ++ [o]).map (·.handle) → a ∈ del := by
    intro a ha
    simp only [List.map_append, List.mem_append, List.mem_map, List.map_cons, List.map_nil, List.mem_singleton] at ha
    rcases ha with ⟨x, hx, rfl⟩ | rfl
    · exact h.sub_del _ _ hod x hx
    · exact hod
  have hclosed : ∀ x ∈ T.descrs, ∀ q, x.parent = some q →
      q ∈ (subtreeBelow T (T.descrs.length + 1) o.handle ++ [o]).map (·.handle) →
      x.handle ∈ (subtreeBelow T (T.descrs.length + 1) o.handle ++ [o]).map (·.handle) := by
    intro x hx q hq hqD
    simp only [List.map_append, List.mem_append, List.mem_map, List.map_cons, List.map_nil, List.mem_singleton] at hqD ⊢
    left
    rcases hqD with ⟨q', hq', rfl⟩ | rfl
    · exact ⟨x, subtree_closed h.dKeys o.handle (q := q') (.inr hq') (mem_childrenOf.2 ⟨hx, hq⟩), rfl⟩
    · exact ⟨x, subtree_closed h.dKeys o.handle (q := o) (.inl rfl) (mem_childrenOf.2 ⟨hx, hq⟩), rfl⟩
  have hseen : CSeen t₀ pend ((subtreeBelow T (T.descrs.length + 1) o.handle ++ [o]).foldl rmDescrAndStates T) := by
    have hinv := seen_foldl_rmDescrAndStates (subtreeBelow T (T.descrs.length + 1) o.handle ++ [o]) T
    refine ⟨fun k => by rw [(hinv k).1]; exact h.seen.monoD k, fun p hp ho => by rw [(hinv _).1]; exact h.seen.pendSeen p hp ho,
      fun k => by rw [(hinv k).2.1]; exact h.seen.seenSeq k, fun k => by rw [(hinv k).2.2]; exact h.seen.seenCeq k, ?_, ?_, ?_⟩
    · intro d hd; exact h.seen.dChg d ((R.descrs d).1 hd).1
    · intro k s hs'
      obtain ⟨e, hm⟩ := findS_some hs'
      have := find_of_mem_nodup (fun s : SState => s.dh) h.sKeys ((R.states s).1 hm).1
      simp only [e] at this
      exact h.seen.sSame k s this
    · intro k x hx
      obtain ⟨e, hm⟩ := findC_some hx
      have := find_of_mem_nodup (fun c : CState => c.h) h.cKeys ((R.ctx x).1 hm).1
      simp only [e] at this
      exact h.seen.cSame k x this
  generalize (subtreeBelow T (T.descrs.length + 1) o.handle ++ [o]).foldl rmDescrAndStates T = T1 at R hseen ⊢
  generalize (subtreeBelow T (T.descrs.length + 1) o.handle ++ [o]).map (·.handle) = D at R hD hclosed
  have hpres : ∀ a, a ∈ T.descrs.map (·.handle) → a ∉ D → a ∈ T1.descrs.map (·.handle) := by
    intro a ha hna
    obtain ⟨x, hx, rfl⟩ := List.mem_map.1 ha
    exact List.mem_map_of_mem ((R.descrs x).2 ⟨hx, hna⟩)
  have hsubH : ∀ a, a ∈ T1.descrs.map (·.handle) → a ∈ T.descrs.map (·.handle) := by
    intro a ha
    obtain ⟨x, hx, rfl⟩ := List.mem_map.1 ha
    exact List.mem_map_of_mem ((R.descrs x).1 hx).1
  have hkeep : ∀ d ∈ T.descrs, d.handle ∉ del → d ∈ T1.descrs := fun d hd hnd => (R.descrs d).2 ⟨hd, fun hx => hnd (hD _ hx)⟩
  refine ⟨(R.dSub.map _).nodup h.dKeys, (R.sSub.map _).nodup h.sKeys, (R.cSub.map _).nodup h.cKeys, ?_, ?_, ?_, ?_, ?_, ?_, ?_, ?_,
    h.siKeys, ?_, h.ciKeys, ?_, hseen, h.siOld0, h.ciOld0, h.ciNoDel⟩
  · intro d hd; exact h.dOld d ((R.descrs d).1 hd).1
  · intro d0 hd0 hnd; exact hpres _ (h.dSurv d0 hd0 hnd) (fun hx => hnd (hD _ hx))
  · intro d hd; exact h.dUp d ((R.descrs d).1 hd).1
  · intro d hd p hp
    obtain ⟨hdT, hdD⟩ := (R.descrs d).1 hd
    rcases h.dPar d hdT p hp with a | a
    · exact .inl (hpres p a (fun hpD => hdD (hclosed d hdT p hp hpD)))
    · exact .inr a
  · intro p hp ho hx; exact h.pendFresh p hp ho (hsubH _ hx)
  · intro p hp ho
    rcases h.creDone p hp ho with a | a
    · exact .inl a
    · refine .inr (hpres _ a (fun hx => ?_))
      obtain ⟨d, hd, e⟩ := hs.delSub _ (hD _ hx)
      have := hi.dOld p hp
      rw [ho] at this
      exact (find_none_iff (fun d : Descr => d.handle)).1 this.symm (e ▸ List.mem_map_of_mem hd)
  · intro s hs'
    obtain ⟨hsT, hsD⟩ := (R.states s).1 hs'
    obtain ⟨k, d, hd, e1, e2, e3⟩ := h.sRef s hsT
    exact ⟨k, d, (R.descrs d).2 ⟨hd, by rw [e1]; exact hsD⟩, e1, e2, e3⟩
  · intro x hx
    obtain ⟨hxT, hxD⟩ := (R.ctx x).1 hx
    obtain ⟨d, hd, e1, e2, e3⟩ := h.cRef x hxT
    exact ⟨d, (R.descrs d).2 ⟨hd, by rw [e1]; exact hxD⟩, e1, e2, e3⟩
  · intro p hp
    have := h.si p hp
    have hnD : p.1 ∉ D := fun hx => this.nd (hD _ hx)
    refine ⟨this.dh, by rw [R.findS _ hnD]; exact this.old, this.kind, this.nd, by rw [R.findS _ hnD, R.sSaved _ hnD]; exact this.bump, ?_⟩
    rcases this.ref with ⟨d, hd, e1, e2, e3⟩ | r
    · exact .inl ⟨d, hkeep d hd (by rw [e1]; exact this.nd), e1, e2, e3⟩
    · exact .inr r
  · intro p hp
    have := h.ci p hp
    have hfc : findC T1 p.1 = findC T p.1 ∧ (findC T p.1 = none → savedGet T1.cSaved p.1 = savedGet T.cSaved p.1) := by
      cases hf : findC T p.1 with
      | none => exact ⟨(R.findCn _ hf).1, fun _ => (R.findCn _ hf).2⟩
      | some o' =>
        refine ⟨R.findC _ o' hf (fun hx => ?_), fun h => by cases h⟩
        exact this.odh o' (by rw [this.old, hf]; rfl) (hD _ hx)
    refine ⟨by rw [hfc.1]; exact this.old, this.odh, ?_, this.fresh⟩
    intro n hn
    obtain ⟨a, b, c, e, f⟩ := this.new n hn
    refine ⟨a, b, c, ?_, ?_⟩
    · rw [hfc.1]
      exact ⟨e.1, fun hnone => by rw [hfc.2 hnone]; exact e.2 hnone⟩
    · rcases f with ⟨d, hd, e1, e2, e3⟩ | r
      · exact .inl ⟨d, hkeep d hd (by rw [e1]; exact b), e1, e2, e3⟩
      · exact .inr r

theorem CInv.drop {T : Tables} {X : DTx} {k : Handle} {it : DItem} (h : CInv t₀ tx₀ del ((k, it) :: pend) st T X)
    (hne : it.old ≠ none ∨ it.new = none) (hi : DTxOK t₀ tx₀) (hmem : (k, it) ∈ tx₀.descr) :
    CInv t₀ tx₀ del pend st T X := by
  have hnc : ∀ q m, (q, (⟨none, some m⟩ : DItem)) ∈ (k, it) :: pend → (q, (⟨none, some m⟩ : DItem)) ∈ pend := by
    intro q m hm
    rcases List.mem_cons.1 hm with e | hm
    · obtain ⟨_, e2⟩ := Prod.mk.inj e
      subst e2
      rcases hne with hne | hne
      · exact absurd rfl hne
      · cases hne
    · exact hm
  obtain ⟨r1, r2, r3, r4⟩ := h.refs (L := T.descrs) (pend' := pend) (st' := st)
    (fun d hd => ⟨d, hd, rfl, rfl, fun hn => ⟨hn, rfl⟩⟩) (fun a m hm => .inl (hnc a m hm))
  refine { h with dPar := ?_, pendFresh := ?_, creDone := ?_, sRef := r1, cRef := r2, si := r3, ci := r4,
                  seen := { h.seen with pendSeen := fun p hp => h.seen.pendSeen p (by simp [hp]) } }
  · intro d hd p hp
    rcases h.dPar d hd p hp with a | ⟨m, hm⟩
    · exact .inl a
    · exact .inr ⟨m, hnc _ _ hm⟩
  · intro p hp; exact h.pendFresh p (by simp [hp])
  · intro p hp ho
    rcases h.creDone p hp ho with a | a
    · rcases List.mem_cons.1 a with e | a
      · subst e
        rcases hne with hne | hne
        · exact absurd ho hne
        · exact absurd hne (hi.dSome _ hmem ho)
      · exact .inl a
    · exact .inr a

end Sdc.Mdib
