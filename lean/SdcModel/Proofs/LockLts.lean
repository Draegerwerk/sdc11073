import SdcModel.LockLts
/-! invariant behind `Properties/C07.lean`: every thread is at a scanner state that matches the lock, and its
observations match the phase of that state -/
namespace Sdc.LockLts

/-- what the observations of a thread must look like, depending on the scanner phase -/
def PhaseOK (c : Cfg) (t : Thr) (s : Scan) : Prop :=
  match s.ph with
  | .before => t.ref = none ∧ t.obsV = [] ∧ t.obsC = [] ∧ t.obsD = []
  | .during => 0 < s.d ∧ (∀ v ∈ t.obsV, v = c.ver) ∧ (∀ r, t.ref = some r → r = c.cur) ∧
      (∀ x ∈ t.obsC, x = c.heap c.cur) ∧ (∀ d ∈ t.obsD, d = c.dsc)
  | .after => ∃ p ∈ c.hist, (∀ v ∈ t.obsV, v = p.1) ∧ (∀ r, t.ref = some r → c.heap r = p.2.2) ∧
      (∀ x ∈ t.obsC, x = p.2.2) ∧ (∀ d ∈ t.obsD, d = p.2.1)
  | .mixed => True

/-- what the flags of the current outermost section say about the shared state, relative to the triple published
    last (`dirty` / `bumped` of the scanner state) -/
def SectOK (c : Cfg) (dirty bumped : Bool) : Prop :=
  ∃ l, c.hist.getLast? = some l ∧ l.1 ≤ c.ver ∧ (bumped = false → c.ver = l.1) ∧ (bumped = true → l.1 < c.ver) ∧
    (dirty = false → c.dsc = l.2.1 ∧ c.heap c.cur = l.2.2)

structure ThrInv (c : Cfg) (j : Nat) (s fin : Scan) : Prop where
  scanTodo : scan s (c.thr j).todo = some fin
  scanProg : scan scan0 (c.thr j).prog = some fin
  finD : fin.d = 0
  noMut : ∀ a ∈ (c.thr j).todo, a.isMutate = false
  free : s.d = 0 → ∀ n, c.owner 0 ≠ some (j, n)
  held : 0 < s.d → c.owner 0 = some (j, s.d)
  refLt : ∀ r, (c.thr j).ref = some r → r < c.next
  phase : PhaseOK c (c.thr j) s
  sect : 0 < s.d → SectOK c s.dirty s.bumped

def ThrOK (c : Cfg) (j : Nat) : Prop := ∃ s fin, ThrInv c j s fin

structure Good (c : Cfg) : Prop where
  curLt : c.cur < c.next
  histNe : c.hist ≠ []
  thr : ∀ j, ThrOK c j
  quiet : c.owner 0 = none → c.hist.getLast? = some (c.ver, c.dsc, c.heap c.cur)
  lastMax : ∀ l, c.hist.getLast? = some l → ∀ p ∈ c.hist, p.1 ≤ l.1

theorem good_init {c : Cfg} (h0 : Init c) (hw : ∀ j, WellLocked (c.thr j).prog ∧ NoMutate (c.thr j).prog) : Good c := by
  obtain ⟨hown, hhist, hcur, hthr⟩ := h0
  refine ⟨hcur, by rw [hhist]; nofun, fun j => ?_, fun _ => by rw [hhist]; rfl, fun l hl p hp => ?_⟩
  · obtain ⟨hwl, hnm⟩ := hw j
    obtain ⟨htodo, href, hv, hdd, hc⟩ := hthr j
    unfold WellLocked at hwl
    cases hsc : scan scan0 (c.thr j).prog with
    | none => rw [hsc] at hwl; exact hwl.elim
    | some fin =>
      rw [hsc] at hwl
      exact ⟨scan0, fin, htodo ▸ hsc, hsc, hwl, htodo ▸ hnm, fun _ n e => (nomatch (hown 0).symm.trans e),
        (absurd · (Nat.lt_irrefl 0)), fun r hr => (nomatch href.symm.trans hr),
        (⟨href, hv, hc, hdd⟩ : _ ∧ _ ∧ _ ∧ _), (absurd · (Nat.lt_irrefl 0))⟩
  · rw [hhist] at hl hp
    cases hl
    rw [List.eq_of_mem_singleton hp]
    exact Nat.le_refl _

section
variable {c c' : Cfg} {t t' : Thr} {s s' fin : Scan} {i j l : Nat} {a : Act} {rest : List Act} {d b : Bool}

theorem phaseOK_mixed (h : s.ph = .mixed) : PhaseOK c t s := by
  simp only [PhaseOK, h]

/-- `PhaseOK` looks at the thread only through its reference and observations, at the scanner state through the phase
    (and, in phase `during`, at whether the lock is held), and at the shared state through what a thread in phase `during`
    (which holds the lock) may read, the history, and the objects the thread refers to. -/
theorem phaseOK_frame (hp : PhaseOK c t s) (hph : s'.ph = s.ph)
    (ht : t'.ref = t.ref ∧ t'.obsV = t.obsV ∧ t'.obsC = t.obsC ∧ t'.obsD = t.obsD)
    (hcur : s.ph = .during → 0 < s.d →
      0 < s'.d ∧ c'.ver = c.ver ∧ c'.cur = c.cur ∧ c'.heap c.cur = c.heap c.cur ∧ c'.dsc = c.dsc)
    (hhist : ∀ p ∈ c.hist, p ∈ c'.hist) (hheap : ∀ r, t.ref = some r → c'.heap r = c.heap r) :
    PhaseOK c' t' s' := by
  obtain ⟨e1, e2, e3, e4⟩ := ht
  unfold PhaseOK at hp ⊢
  rw [hph, e1, e2, e3, e4]
  cases hs : s.ph <;> rw [hs] at hp
  · exact hp
  · obtain ⟨hd, h1, h2, h3, h4⟩ := hp
    obtain ⟨hd', e1, e2, e3, e4⟩ := hcur hs hd
    exact ⟨hd', by rw [e1]; exact h1, by rw [e2]; exact h2, by rw [e2, e3]; exact h3, by rw [e4]; exact h4⟩
  · obtain ⟨p, hpm, h1, h2, h3⟩ := hp
    exact ⟨p, hhist p hpm, h1, fun r hr => by rw [hheap r hr]; exact h2 r hr, h3⟩
  · trivial

theorem sectOK_congr (h : SectOK c d b) (e1 : c'.hist = c.hist) (e2 : c'.ver = c.ver)
    (e3 : c'.dsc = c.dsc) (e4 : c'.heap c'.cur = c.heap c.cur) : SectOK c' d b := by
  unfold SectOK
  rw [e1, e2, e3, e4]
  exact h

/-- inside the critical section a thread may add the current value of anything shared to what it has observed -/
theorem phaseOK_read (hp : PhaseOK c t s) (hd : 0 < s'.d)
    (hph : (s.ph = .before ∨ s.ph = .during) ∧ s'.ph = .during ∨ s.ph = .mixed ∧ s'.ph = .mixed)
    (hV : ∀ v ∈ t'.obsV, v ∈ t.obsV ∨ v = c.ver) (hR : ∀ r, t'.ref = some r → t.ref = some r ∨ r = c.cur)
    (hC : ∀ x ∈ t'.obsC, x ∈ t.obsC) (hD : ∀ d ∈ t'.obsD, d ∈ t.obsD ∨ d = c.dsc) : PhaseOK c t' s' := by
  rcases hph with ⟨hb, hn⟩ | ⟨_, hn⟩
  · -- what was observed so far is nothing (`before`) or current (`during`)
    have old : (∀ v ∈ t.obsV, v = c.ver) ∧ (∀ r, t.ref = some r → r = c.cur) ∧
        (∀ x ∈ t.obsC, x = c.heap c.cur) ∧ (∀ d ∈ t.obsD, d = c.dsc) := by
      unfold PhaseOK at hp
      rcases hb with hb | hb <;> rw [hb] at hp
      · obtain ⟨e1, e2, e3, e4⟩ := hp
        rw [e1, e2, e3, e4]
        exact ⟨nofun, nofun, nofun, nofun⟩
      · exact hp.2
    unfold PhaseOK
    rw [hn]
    exact ⟨hd, fun v hv => (hV v hv).elim (old.1 v) id, fun r hr => (hR r hr).elim (old.2.1 r) id,
      fun x hx => old.2.2.1 x (hC x hx), fun d hd => (hD d hd).elim (old.2.2.2 d) id⟩
  · exact phaseOK_mixed hn

theorem sectOK_fresh (hq : c.hist.getLast? = some (c.ver, c.dsc, c.heap c.cur)) : SectOK c false false :=
  ⟨_, hq, Nat.le_refl _, fun _ => rfl, nofun, fun _ => ⟨rfl, rfl⟩⟩

theorem thrInv_frame (hthr : c'.thr j = c.thr j)
    (hown : ∀ n, c'.owner 0 = some (j, n) ↔ c.owner 0 = some (j, n))
    (hkeep : ∀ n, c.owner 0 = some (j, n) →
      c'.ver = c.ver ∧ c'.cur = c.cur ∧ c'.heap c.cur = c.heap c.cur ∧ c'.dsc = c.dsc ∧ c'.hist = c.hist)
    (hhist : ∀ p ∈ c.hist, p ∈ c'.hist)
    (hnext : c.next ≤ c'.next)
    (hheap : ∀ r, r < c.next → c'.heap r = c.heap r)
    (h : ThrInv c j s fin) : ThrInv c' j s fin where
  scanTodo := hthr ▸ h.scanTodo
  scanProg := hthr ▸ h.scanProg
  finD := h.finD
  noMut := hthr ▸ h.noMut
  free hd n hn := h.free hd n ((hown n).1 hn)
  held hd := (hown _).2 (h.held hd)
  refLt r hr := Nat.lt_of_lt_of_le (h.refLt r (hthr ▸ hr)) hnext
  phase := hthr ▸ phaseOK_frame h.phase rfl ⟨rfl, rfl, rfl, rfl⟩
    (fun _ hd => let ⟨e1, e2, e3, e4, _⟩ := hkeep _ (h.held hd); ⟨hd, e1, e2, e3, e4⟩)
    hhist (fun r hr => hheap r (h.refLt r hr))
  sect hd := let ⟨e1, e2, e3, e4, e5⟩ := hkeep _ (h.held hd); sectOK_congr (h.sect hd) e5 e1 e4 (by rw [e2, e3])

theorem scan_cons (h : scan s (a :: rest) = some fin) :
    ∃ s', stepScan s a = some s' ∧ scan s' rest = some fin := by
  rw [scan] at h
  split at h
  · exact ⟨_, ‹_›, h⟩
  · cases h

theorem stepScan_other (hl : l ≠ 0) (ha : a = .acq l ∨ a = .rel l)
    (h : stepScan s a = some s') : s' = s := by
  rcases ha with rfl | rfl <;> rw [stepScan, if_neg hl] at h <;> exact (Option.some.inj h).symm

theorem stepScan_acq0 (h : stepScan s (.acq 0) = some s') :
    s'.d = s.d + 1 ∧ s'.ph = s.ph ∧ s'.ok = s.ok ∧
    (0 < s.d → s'.dirty = s.dirty ∧ s'.bumped = s.bumped) ∧ (s.d = 0 → s'.dirty = false ∧ s'.bumped = false) := by
  rw [stepScan, if_pos rfl] at h
  by_cases hd : s.d = 0
  · rw [if_pos hd] at h; cases h
    exact ⟨by rw [hd], rfl, rfl, fun h0 => absurd hd (Nat.ne_of_gt h0), fun _ => ⟨rfl, rfl⟩⟩
  · rw [if_neg hd] at h; cases h
    exact ⟨rfl, rfl, rfl, fun _ => ⟨rfl, rfl⟩, fun h0 => absurd h0 hd⟩

theorem stepScan_rel0 (h : stepScan s (.rel 0) = some s') :
    0 < s.d ∧ s'.d = s.d - 1 ∧ s'.ph = (if s.d = 1 ∧ s.ph = .during then .after else s.ph) ∧
    s'.dirty = s.dirty ∧ s'.bumped = s.bumped ∧
    s'.ok = (if s.d = 1 then s.ok && (!s.dirty || s.bumped) else s.ok) := by
  rw [stepScan, if_pos rfl] at h
  by_cases hd : s.d = 0
  · rw [if_pos hd] at h; cases h
  · rw [if_neg hd] at h; cases h
    exact ⟨Nat.pos_of_ne_zero hd, rfl, rfl, rfl, rfl, rfl⟩

/-- the scanner treats the three shared reads alike (they share an arm of `stepScan`, so `ha` holds by `rfl`) -/
theorem stepScan_read (ha : stepScan s a = stepScan s .rdV) (h : stepScan s a = some s') :
    0 < s.d ∧ s'.d = s.d ∧ s'.dirty = s.dirty ∧ s'.bumped = s.bumped ∧ s'.ok = s.ok ∧
      ((s.ph = .before ∨ s.ph = .during) ∧ s'.ph = .during ∨ s.ph = .mixed ∧ s'.ph = .mixed) := by
  rw [ha, stepScan] at h
  by_cases hd : s.d = 0
  · rw [if_pos hd] at h; cases h
  · rw [if_neg hd] at h
    refine ⟨Nat.pos_of_ne_zero hd, ?_⟩
    cases hph : s.ph <;> rw [hph] at h <;> cases h
    · exact ⟨rfl, rfl, rfl, rfl, .inl ⟨.inl rfl, rfl⟩⟩
    · exact ⟨rfl, rfl, rfl, rfl, .inl ⟨.inr rfl, rfl⟩⟩
    · exact ⟨rfl, rfl, rfl, rfl, .inr ⟨rfl, hph⟩⟩

theorem stepScan_deref (h : stepScan s .deref = some s') : s' = s :=
  (Option.some.inj h).symm

theorem stepScan_write (ha : a.isWrite = true) (h : stepScan s a = some s') :
    0 < s.d ∧ s'.d = s.d ∧ s'.ph = (if s.ph = .during then .mixed else s.ph) ∧ s'.ok = s.ok ∧
    (a = .incV → s'.bumped = true ∧ s'.dirty = s.dirty) ∧ (a ≠ .incV → s'.dirty = true ∧ s'.bumped = s.bumped) := by
  cases a with
  | incV =>
    obtain ⟨hd, h⟩ := Option.ite_none_left_eq_some.1 h
    cases h
    exact ⟨Nat.pos_of_ne_zero hd, rfl, rfl, rfl, fun _ => ⟨rfl, rfl⟩, fun e => absurd rfl e⟩
  | wrD | wrC | mutate =>
    obtain ⟨hd, h⟩ := Option.ite_none_left_eq_some.1 h
    cases h
    exact ⟨Nat.pos_of_ne_zero hd, rfl, rfl, rfl, nofun, fun _ => ⟨rfl, rfl⟩⟩
  | _ => cases ha

/-- an `acq` succeeds on a lock that is free (count 0) or the thread's own, and counts one up -/
theorem stepAct_acq (hs : stepAct c i (.acq l) rest = some c') :
    ∃ n, (c.owner l = none ∧ n = 0 ∨ c.owner l = some (i, n)) ∧
      c' = { c with owner := upd c.owner l (some (i, n + 1)), thr := upd c.thr i { c.thr i with todo := rest } } := by
  cases ho : c.owner l with
  | none => simp only [stepAct, ho] at hs; exact ⟨0, .inl ⟨rfl, rfl⟩, (Option.some.inj hs).symm⟩
  | some jn =>
    obtain ⟨j, n⟩ := jn
    simp only [stepAct, ho] at hs
    by_cases hj : j = i
    · rw [if_pos hj] at hs; exact ⟨n, .inr (hj ▸ rfl), (Option.some.inj hs).symm⟩
    · rw [if_neg hj] at hs; cases hs

theorem stepAct_rel (hs : stepAct c i (.rel l) rest = some c') :
    ∃ n, c.owner l = some (i, n) ∧
      (n ≤ 1 ∧ c' = { c with owner := upd c.owner l none,
                             hist := if l = 0 then c.hist ++ [(c.ver, c.dsc, c.heap c.cur)] else c.hist,
                             thr := upd c.thr i { c.thr i with todo := rest } } ∨
       ¬ n ≤ 1 ∧ c' = { c with owner := upd c.owner l (some (i, n - 1)),
                               thr := upd c.thr i { c.thr i with todo := rest } }) := by
  cases ho : c.owner l with
  | none => simp only [stepAct, ho] at hs; cases hs
  | some jn =>
    obtain ⟨j, n⟩ := jn
    simp only [stepAct, ho] at hs
    by_cases hj : j = i
    · rw [if_pos hj] at hs
      refine ⟨n, hj ▸ rfl, ?_⟩
      by_cases hn : n ≤ 1
      · rw [if_pos hn] at hs; exact .inl ⟨hn, (Option.some.inj hs).symm⟩
      · rw [if_neg hn] at hs; exact .inr ⟨hn, (Option.some.inj hs).symm⟩
    · rw [if_neg hj] at hs; cases hs

theorem stepAct_deref (hs : stepAct c i .deref rest = some c') :
    ∃ r, (c.thr i).ref = some r ∧
      c' = { c with thr := upd c.thr i { c.thr i with todo := rest, obsC := (c.thr i).obsC ++ [c.heap r] } } := by
  simp only [stepAct] at hs
  split at hs
  · next r hr => exact ⟨r, hr, (Option.some.inj hs).symm⟩
  · cases hs

theorem depth_of_owner {i n : Nat} (h : ThrInv c i s fin) (ho : c.owner 0 = some (i, n)) :
    n = s.d ∧ 0 < s.d := by
  have hpos : 0 < s.d := Nat.pos_of_ne_zero fun h0 => h.free h0 n ho
  have e := h.held hpos
  rw [ho] at e; cases e
  exact ⟨rfl, hpos⟩

theorem not_owner (ho : c.owner 0 = none ∨ ∃ m, c.owner 0 = some (i, m)) (hj : j ≠ i) (n : Nat) :
    c.owner 0 ≠ some (j, n) := by
  intro e
  rcases ho with ho | ⟨m, ho⟩ <;> rw [ho] at e <;> cases e
  exact hj rfl

/-- thread `i`, at scanner state `s`, is about to execute `a` and go on with `rest` -/
structure AtStep (c : Cfg) (i : Nat) (a : Act) (rest : List Act) (s s' fin : Scan) : Prop where
  good : Good c
  inv : ThrInv c i s fin
  todo : (c.thr i).todo = a :: rest
  step : stepScan s a = some s'
  rest : scan s' rest = some fin

/-- what `ThrInv c' i s' fin` says of a thread with locals `t'` beyond the scans of its program and of what is left of it -/
structure Mover (c' : Cfg) (i : Nat) (t' : Thr) (s' : Scan) : Prop where
  free : s'.d = 0 → ∀ n, c'.owner 0 ≠ some (i, n)
  held : 0 < s'.d → c'.owner 0 = some (i, s'.d)
  refLt : ∀ r, t'.ref = some r → r < c'.next
  phase : PhaseOK c' t' s'
  sect : 0 < s'.d → SectOK c' s'.dirty s'.bumped

/-- `Good c'` after thread `i` moved and has locals `t'` (`hi`: its part of the invariant). `hlock` is the locking discipline:
    the step leaves `mdib_lock` and the shared state alone, or no thread other than the mover holds `mdib_lock` before or
    after it. `hhist hnext hheap`: nothing published or allocated is lost; `hcur hquiet hlast`: the fields of `Good c'`. -/
theorem good_of (m : AtStep c i a rest s s' fin) (t' : Thr) (hthr : c'.thr = upd c.thr i t')
    (hprog : t'.prog = (c.thr i).prog) (htodo' : t'.todo = rest)
    (hlock : c'.owner 0 = c.owner 0 ∧ c'.ver = c.ver ∧ c'.cur = c.cur ∧ c'.heap c.cur = c.heap c.cur ∧ c'.dsc = c.dsc ∧
        c'.hist = c.hist ∨
      (c.owner 0 = none ∨ ∃ m, c.owner 0 = some (i, m)) ∧ (c'.owner 0 = none ∨ ∃ m, c'.owner 0 = some (i, m)))
    (hcur : c'.cur < c'.next) (hhist : ∀ p ∈ c.hist, p ∈ c'.hist) (hnext : c.next ≤ c'.next)
    (hheap : ∀ r, r < c.next → c'.heap r = c.heap r)
    (hquiet : c'.owner 0 = none → c'.hist.getLast? = some (c'.ver, c'.dsc, c'.heap c'.cur))
    (hlast : ∀ l, c'.hist.getLast? = some l → ∀ p ∈ c'.hist, p.1 ≤ l.1) (hi : Mover c' i t' s') : Good c' where
  curLt := hcur
  histNe he := by
    obtain ⟨p, hp⟩ := List.exists_mem_of_ne_nil _ m.good.histNe
    exact absurd (he ▸ hhist p hp) List.not_mem_nil
  thr j := by
    by_cases hj : j = i
    · have ht : c'.thr i = t' := hthr ▸ upd_same _ _ _
      rw [hj]
      exact ⟨s', fin, by rw [ht, htodo']; exact m.rest, by rw [ht, hprog]; exact m.inv.scanProg, m.inv.finD,
        fun b hb => m.inv.noMut b (by rw [m.todo]; rw [ht, htodo'] at hb; exact List.mem_cons_of_mem _ hb), hi.free,
        hi.held, fun r hr => hi.refLt r (ht ▸ hr), ht ▸ hi.phase, hi.sect⟩
    · obtain ⟨sj, finj, hj'⟩ := m.good.thr j
      refine ⟨sj, finj, thrInv_frame (hthr ▸ upd_other _ _ _ _ hj) ?_ ?_ hhist hnext hheap hj'⟩
      · rcases hlock with ⟨e, _⟩ | ⟨ho, ho'⟩
        · exact fun _ => e ▸ Iff.rfl
        · exact fun n => ⟨fun e => absurd e (not_owner ho' hj n), fun e => absurd e (not_owner ho hj n)⟩
      · rcases hlock with ⟨_, e⟩ | ⟨ho, _⟩
        · exact fun _ _ => e
        · exact fun n e => absurd e (not_owner ho hj n)
  quiet := hquiet
  lastMax := hlast

/-! ### steps that leave `mdib_lock` and the shared MDIB state alone (thread-local actions, other locks) -/

theorem good_local (m : AtStep c i a rest s s' fin) (t' : Thr) (owner' : Nat → Option (Nat × Nat)) (hown0 : owner' 0 = c.owner 0)
    (hprog : t'.prog = (c.thr i).prog) (htodo' : t'.todo = rest)
    (hd : s'.d = s.d) (hflags : s'.dirty = s.dirty ∧ s'.bumped = s.bumped)
    (refLt : ∀ r, t'.ref = some r → r < c.next) (phase : PhaseOK c t' s') :
    Good { c with owner := owner', thr := upd c.thr i t' } := by
  refine good_of m t' rfl hprog htodo' (.inl ⟨hown0, rfl, rfl, rfl, rfl, rfl⟩) m.good.curLt (fun _ hp => hp)
    (Nat.le_refl _) (fun _ _ => rfl) (fun ho => m.good.quiet (hown0 ▸ ho)) m.good.lastMax ⟨?_, ?_, refLt, phase, ?_⟩
  · intro h0 n; show owner' 0 ≠ _; rw [hown0]; exact m.inv.free (hd ▸ h0) n
  · intro h0; show owner' 0 = _; rw [hown0, hd]; exact m.inv.held (hd ▸ h0)
  · exact fun h0 => hflags.1 ▸ hflags.2 ▸ m.inv.sect (hd ▸ h0)

/-- `rdV`, `rdD`, `rdC`: the new locals `t'` hold the old observations and current values -/
theorem good_read (m : AtStep c i a rest s s' fin) (t' : Thr)
    (ha : stepScan s a = stepScan s .rdV)
    (hprog : t'.prog = (c.thr i).prog) (htodo' : t'.todo = rest)
    (hV : ∀ v ∈ t'.obsV, v ∈ (c.thr i).obsV ∨ v = c.ver)
    (hR : ∀ r, t'.ref = some r → (c.thr i).ref = some r ∨ r = c.cur)
    (hC : ∀ x ∈ t'.obsC, x ∈ (c.thr i).obsC) (hD : ∀ d ∈ t'.obsD, d ∈ (c.thr i).obsD ∨ d = c.dsc) :
    Good { c with thr := upd c.thr i t' } := by
  obtain ⟨hd, hd', hf1, hf2, _, hph⟩ := stepScan_read ha m.step
  exact good_local m t' c.owner rfl hprog htodo' hd' ⟨hf1, hf2⟩
    (fun r hr => (hR r hr).elim (m.inv.refLt r) (fun e => e ▸ m.good.curLt)) (phaseOK_read m.inv.phase (hd' ▸ hd) hph hV hR hC hD)

theorem good_deref {r : Nat} (m : AtStep c i .deref rest s s' fin) (hr : (c.thr i).ref = some r) :
    Good { c with thr := upd c.thr i { c.thr i with todo := rest, obsC := (c.thr i).obsC ++ [c.heap r] } } := by
  obtain rfl := stepScan_deref m.step
  refine good_local m _ c.owner rfl rfl rfl rfl ⟨rfl, rfl⟩ m.inv.refLt ?_
  have hp := m.inv.phase
  unfold PhaseOK at hp ⊢
  cases hs : s'.ph <;> rw [hs] at hp
  · rw [hp.1] at hr; cases hr
  · refine ⟨hp.1, hp.2.1, hp.2.2.1, fun x hx => ?_, hp.2.2.2.2⟩
    rcases List.mem_append.1 hx with hx | hx
    · exact hp.2.2.2.1 x hx
    · rw [List.eq_of_mem_singleton hx, hp.2.2.1 r hr]
  · obtain ⟨p, hpm, h1, h2, h3, h4⟩ := hp
    refine ⟨p, hpm, h1, h2, fun x hx => ?_, h4⟩
    rcases List.mem_append.1 hx with hx | hx
    · exact h3 x hx
    · rw [List.eq_of_mem_singleton hx]; exact h2 r hr
  · trivial

theorem good_otherLock (m : AtStep c i a rest s s' fin) (v : Option (Nat × Nat)) (hl : l ≠ 0) (e : s' = s) :
    Good { c with owner := upd c.owner l v, thr := upd c.thr i { c.thr i with todo := rest } } := by
  subst e
  exact good_local m _ _ (upd_other _ _ _ _ (Ne.symm hl)) rfl rfl rfl ⟨rfl, rfl⟩ m.inv.refLt
    (phaseOK_frame m.inv.phase rfl ⟨rfl, rfl, rfl, rfl⟩ (fun _ hd => ⟨hd, rfl, rfl, rfl, rfl⟩) (fun _ hp => hp) (fun _ _ => rfl))

/-- `mdib_lock` is entered, or left at an inner level: the mover holds it afterwards, the shared state is untouched -/
theorem good_depth (m : AtStep c i a rest s s' fin) (ho : c.owner 0 = none ∨ ∃ m, c.owner 0 = some (i, m))
    (hd : 0 < s'.d) (hph : s'.ph = s.ph)
    (hsect : SectOK c s'.dirty s'.bumped) :
    Good { c with owner := upd c.owner 0 (some (i, s'.d)), thr := upd c.thr i { c.thr i with todo := rest } } :=
  good_of m _ rfl rfl rfl (.inr ⟨ho, .inr ⟨s'.d, upd_same c.owner 0 _⟩⟩) m.good.curLt (fun _ hp => hp)
    (Nat.le_refl _) (fun _ _ => rfl) (fun e => nomatch (upd_same c.owner 0 (some (i, s'.d))).symm.trans e) m.good.lastMax
    ⟨fun h0 => absurd h0 (Nat.ne_of_gt hd), fun _ => upd_same c.owner 0 _, m.inv.refLt,
      phaseOK_frame m.inv.phase hph ⟨rfl, rfl, rfl, rfl⟩ (fun _ _ => ⟨hd, rfl, rfl, rfl, rfl⟩) (fun _ hp => hp) (fun _ _ => rfl),
      fun _ => hsect⟩

theorem good_publish (m : AtStep c i (.rel 0) rest s s' fin) (hd1 : s.d = 1) :
    Good { c with owner := upd c.owner 0 none, hist := c.hist ++ [(c.ver, c.dsc, c.heap c.cur)],
                  thr := upd c.thr i { c.thr i with todo := rest } } := by
  obtain ⟨hpos, hd', hph', _⟩ := stepScan_rel0 m.step
  have hd0 : ¬ 0 < s'.d := by rw [hd', hd1]; exact Nat.lt_irrefl 0
  obtain ⟨l0, hl0, hle, _⟩ := m.inv.sect hpos
  refine good_of m _ rfl rfl rfl (.inr ⟨.inr ⟨_, m.inv.held hpos⟩, .inl (upd_same c.owner 0 _)⟩) m.good.curLt
    (fun _ hp => List.mem_append_left _ hp) (Nat.le_refl _) (fun _ _ => rfl) (fun _ => List.getLast?_concat) ?_
    ⟨fun _ n e => (nomatch (upd_same c.owner 0 none).symm.trans e), fun hp => absurd hp hd0, m.inv.refLt, ?_,
      fun hp => absurd hp hd0⟩
  rotate_left
  · by_cases hdur : s.ph = .during
    · -- what the thread saw during the section is the triple published now
      rw [if_pos ⟨hd1, hdur⟩] at hph'
      have hp := m.inv.phase
      unfold PhaseOK at hp ⊢
      rw [hdur] at hp
      rw [hph']
      exact ⟨_, List.mem_append_right _ (List.mem_singleton_self _), hp.2.1, fun r hr => hp.2.2.1 r hr ▸ rfl,
        hp.2.2.2.1, hp.2.2.2.2⟩
    · rw [if_neg fun e => hdur e.2] at hph'
      exact phaseOK_frame m.inv.phase hph' ⟨rfl, rfl, rfl, rfl⟩ (fun e => absurd e hdur) (fun _ hp => List.mem_append_left _ hp)
        (fun _ _ => rfl)
  · intro l hl p hp
    rw [show _ = some _ from List.getLast?_concat] at hl
    cases hl
    rcases List.mem_append.1 hp with hp | hp
    · exact Nat.le_trans (m.good.lastMax l0 hl0 p hp) hle
    · rw [List.eq_of_mem_singleton hp]; exact Nat.le_refl _

/-- the owner changes version / description / installs a fresh state object: only `incV` changes the version, and it
    changes nothing else -/
theorem good_write (m : AtStep c i a rest s s' fin) (ver' dsc' cur' next' : Nat) (heap' : Nat → Nat) (ha : a.isWrite = true)
    (hcur : cur' < next') (hnext : c.next ≤ next')
    (hheap : ∀ r, r < c.next → heap' r = c.heap r)
    (hinc : a = .incV → ver' = c.ver + 1 ∧ dsc' = c.dsc ∧ heap' cur' = c.heap c.cur)
    (hoth : a ≠ .incV → ver' = c.ver) :
    Good { c with ver := ver', dsc := dsc', cur := cur', heap := heap', next := next',
                  thr := upd c.thr i { c.thr i with todo := rest } } := by
  obtain ⟨hpos, hd', hph', _, hfi, hfo⟩ := stepScan_write ha m.step
  have ho := m.inv.held hpos
  refine good_of m _ rfl rfl rfl (.inr ⟨.inr ⟨_, ho⟩, .inr ⟨_, ho⟩⟩) hcur (fun _ hp => hp) hnext hheap
    (fun e => nomatch ho.symm.trans e) m.good.lastMax ⟨fun hd => absurd (hd' ▸ hd) (Nat.ne_of_gt hpos), fun _ => hd' ▸ ho,
      fun r hr => Nat.lt_of_lt_of_le (m.inv.refLt r hr) hnext, ?_, fun _ => ?_⟩
  · by_cases hdur : s.ph = .during
    · exact phaseOK_mixed (by rw [hph', if_pos hdur])
    · rw [if_neg hdur] at hph'
      exact phaseOK_frame m.inv.phase hph' ⟨rfl, rfl, rfl, rfl⟩ (fun e => absurd e hdur) (fun _ hp => hp)
        (fun r hr => hheap r (m.inv.refLt r hr))
  · obtain ⟨l, hl, hle, hb0, hb1, hdd⟩ := m.inv.sect hpos
    by_cases hai : a = .incV
    · obtain ⟨hv, hd2, hh2⟩ := hinc hai
      rw [(hfi hai).1, (hfi hai).2]
      exact ⟨l, hl, hv ▸ Nat.le_succ_of_le hle, nofun, fun _ => hv ▸ Nat.lt_succ_of_le hle,
        fun hdf => by show dsc' = _ ∧ heap' cur' = _; rw [hd2, hh2]; exact hdd hdf⟩
    · rw [(hfo hai).1, (hfo hai).2]
      exact ⟨l, hl, hoth hai ▸ hle, fun hb => hoth hai ▸ hb0 hb, fun hb => hoth hai ▸ hb1 hb, nofun⟩

theorem good_acq (m : AtStep c i (.acq l) rest s s' fin) (hs : stepAct c i (.acq l) rest = some c') :
    Good c' := by
  obtain ⟨n, ho, rfl⟩ := stepAct_acq hs
  by_cases hl : l = 0
  · subst hl
    obtain ⟨hd', hph', _, hfl, hfl0⟩ := stepScan_acq0 m.step
    have hd : 0 < s'.d := hd' ▸ Nat.succ_pos _
    -- the count `n` found on the lock is the scanner depth
    rcases ho with ⟨ho, rfl⟩ | ho
    · have h0 : s.d = 0 := (Nat.eq_zero_or_pos s.d).resolve_right fun hp => nomatch ho.symm.trans (m.inv.held hp)
      have e : s'.d = 0 + 1 := by rw [hd', h0]
      rw [← e]
      -- a new outermost section: the state is the one published last
      exact good_depth m (.inl ho) hd hph' ((hfl0 h0).1 ▸ (hfl0 h0).2 ▸ sectOK_fresh (m.good.quiet ho))
    · obtain ⟨rfl, hpos⟩ := depth_of_owner m.inv ho
      rw [← hd']
      exact good_depth m (.inr ⟨_, ho⟩) hd hph' ((hfl hpos).1 ▸ (hfl hpos).2 ▸ m.inv.sect hpos)
  · exact good_otherLock m _ hl (stepScan_other hl (.inl rfl) m.step)

theorem good_rel (m : AtStep c i (.rel l) rest s s' fin) (hs : stepAct c i (.rel l) rest = some c') :
    Good c' := by
  obtain ⟨n, ho, hc'⟩ := stepAct_rel hs
  by_cases hl : l = 0
  · subst hl
    obtain ⟨rfl, hpos⟩ := depth_of_owner m.inv ho
    rcases hc' with ⟨h1, rfl⟩ | ⟨h1, rfl⟩
    · exact good_publish m (Nat.le_antisymm h1 hpos)
    · obtain ⟨_, hd', hph', hfd, hfb, _⟩ := stepScan_rel0 m.step
      rw [if_neg fun e => h1 (Nat.le_of_eq e.1)] at hph'
      rw [← hd']
      exact good_depth m (.inr ⟨_, ho⟩) (hd' ▸ Nat.sub_pos_of_lt (Nat.lt_of_not_le h1)) hph'
        (hfd ▸ hfb ▸ m.inv.sect hpos)
  · rcases hc' with ⟨_, rfl⟩ | ⟨_, rfl⟩
    · rw [if_neg hl]; exact good_otherLock m _ hl (stepScan_other hl (.inr rfl) m.step)
    · exact good_otherLock m _ hl (stepScan_other hl (.inr rfl) m.step)

end

theorem good_step {c c' : Cfg} {i : Nat} (hg : Good c) (hs : stepFn c i = some c') : Good c' := by
  obtain ⟨s, fin, h⟩ := hg.thr i
  unfold stepFn at hs
  cases htodo : (c.thr i).todo with
  | nil => rw [htodo] at hs; cases hs
  | cons a rest =>
    rw [htodo] at hs
    obtain ⟨s', hss, hrest⟩ := scan_cons (htodo ▸ h.scanTodo)
    have m : AtStep c i a rest s s' fin := ⟨hg, h, htodo, hss, hrest⟩
    cases a with
    | acq l => exact good_acq m hs
    | rel l => exact good_rel m hs
    | rdV =>
      cases hs
      exact good_read m _ rfl rfl rfl
        (fun v hv => (List.mem_append.1 hv).imp_right List.eq_of_mem_singleton) (fun _ hr => .inl hr) (fun _ hx => hx)
        (fun _ hd => .inl hd)
    | rdD =>
      cases hs
      exact good_read m _ rfl rfl rfl (fun _ hv => .inl hv) (fun _ hr => .inl hr)
        (fun _ hx => hx) (fun d hd => (List.mem_append.1 hd).imp_right List.eq_of_mem_singleton)
    | rdC =>
      cases hs
      exact good_read m _ rfl rfl rfl (fun _ hv => .inl hv)
        (fun r hr => .inr (Option.some.inj hr).symm) (fun _ hx => hx) (fun _ hd => .inl hd)
    | deref =>
      obtain ⟨r, hr, rfl⟩ := stepAct_deref hs
      exact good_deref m hr
    | incV =>
      cases hs
      exact good_write m (c.ver + 1) c.dsc c.cur c.next c.heap rfl hg.curLt (Nat.le_refl _)
        (fun _ _ => rfl) (fun _ => ⟨rfl, rfl, rfl⟩) (fun hne => absurd rfl hne)
    | wrD x =>
      cases hs
      exact good_write m c.ver x c.cur c.next c.heap rfl hg.curLt (Nat.le_refl _) (fun _ _ => rfl)
        nofun (fun _ => rfl)
    | wrC x =>
      cases hs
      exact good_write m c.ver c.dsc c.next (c.next + 1) (upd c.heap c.next x) rfl
        (Nat.lt_succ_self _) (Nat.le_succ _) (fun r hr => upd_other _ _ _ _ (Nat.ne_of_lt hr)) nofun (fun _ => rfl)
    | mutate x => cases h.noMut (.mutate x) (htodo ▸ List.mem_cons_self)

theorem good_reach {c0 c : Cfg} (hg : Good c0) (hr : Reach c0 c) : Good c := by
  induction hr with
  | refl => exact hg
  | step _ hs ih => exact good_step ih hs

section
variable {c c' : Cfg} {s s' fin : Scan} {i : Nat} {a : Act}

theorem stepScan_readOnly (ha : a.isWrite = false) (hss : stepScan s a = some s')
    (hph : s.ph ≠ .mixed) : s'.ph ≠ .mixed := by
  cases a with
  | acq l =>
    by_cases hl : l = 0
    · rw [hl] at hss; rw [(stepScan_acq0 hss).2.1]; exact hph
    · rw [stepScan_other hl (.inl rfl) hss]; exact hph
  | rel l =>
    by_cases hl : l = 0
    · rw [hl] at hss; rw [(stepScan_rel0 hss).2.2.1]
      split
      · nofun
      · exact hph
    · rw [stepScan_other hl (.inr rfl) hss]; exact hph
  | rdV | rdC | rdD =>
    rcases (stepScan_read rfl hss).2.2.2.2.2 with ⟨_, hn⟩ | ⟨hb, _⟩
    · rw [hn]; nofun
    · exact absurd hb hph
  | deref => rw [stepScan_deref hss]; exact hph
  | incV | wrD | wrC | mutate => cases ha

theorem scan_readOnly {p : List Act} (hro : ReadOnly p) (hsc : scan s p = some fin)
    (hph : s.ph ≠ .mixed) : fin.ph ≠ .mixed := by
  induction p generalizing s with
  | nil => cases hsc; exact hph
  | cons a p ih =>
    obtain ⟨s', hss, hrest⟩ := scan_cons hsc
    exact ih (fun b hb => hro b (List.mem_cons_of_mem _ hb)) hrest
      (stepScan_readOnly (hro a List.mem_cons_self) hss hph)

/-- C07 core: a completed read-only thread holds observations of ONE published (version, description, states) triple -/
theorem snapshot_of_good (hg : Good c) (i : Nat) (hro : ReadOnly (c.thr i).prog)
    (hd : (c.thr i).todo = []) : ∃ p ∈ c.hist, Consistent (c.thr i) p := by
  obtain ⟨s, fin, h⟩ := hg.thr i
  have hsc := h.scanTodo
  rw [hd] at hsc
  cases hsc
  have hp := h.phase
  unfold PhaseOK at hp
  cases hph : s.ph <;> rw [hph] at hp
  · obtain ⟨p, hpm⟩ := List.exists_mem_of_ne_nil _ hg.histNe
    refine ⟨p, hpm, ?_⟩
    rw [Consistent, hp.2.1, hp.2.2.1, hp.2.2.2]
    exact ⟨nofun, nofun, nofun⟩
  · exact absurd hp.1 (h.finD ▸ Nat.lt_irrefl 0)
  · obtain ⟨p, hpm, h1, _, h3, h4⟩ := hp
    exact ⟨p, hpm, h1, h4, h3⟩
  · exact absurd hph (scan_readOnly hro h.scanProg nofun)

/-- every version was published with one content only -/
def Func (c : Cfg) : Prop := ∀ p ∈ c.hist, ∀ q ∈ c.hist, p.1 = q.1 → p = q

theorem func_init (h0 : Init c) : Func c := by
  intro p hp q hq _
  rw [h0.2.1] at hp hq
  rw [List.eq_of_mem_singleton hp, List.eq_of_mem_singleton hq]

theorem func_snoc {h : List (Nat × Nat × Nat)} {x : Nat × Nat × Nat} (hf : ∀ p ∈ h, ∀ q ∈ h, p.1 = q.1 → p = q)
    (hx : ∀ p ∈ h, p.1 = x.1 → p = x) : ∀ p ∈ h ++ [x], ∀ q ∈ h ++ [x], p.1 = q.1 → p = q := by
  intro p hp q hq e
  rcases List.mem_append.1 hp with hp | hp <;> rcases List.mem_append.1 hq with hq | hq
  · exact hf p hp q hq e
  · rw [List.eq_of_mem_singleton hq] at e ⊢; exact hx p hp e
  · rw [List.eq_of_mem_singleton hp] at e ⊢; exact (hx q hq e.symm).symm
  · rw [List.eq_of_mem_singleton hp, List.eq_of_mem_singleton hq]

theorem stepScan_ok (h : stepScan s a = some s') (hok : s'.ok = true) : s.ok = true := by
  cases a with
  | acq l =>
    by_cases hl : l = 0
    · rw [hl] at h; rw [← (stepScan_acq0 h).2.2.1]; exact hok
    · rw [← stepScan_other hl (.inl rfl) h]; exact hok
  | rel l =>
    by_cases hl : l = 0
    · rw [hl] at h; rw [(stepScan_rel0 h).2.2.2.2.2] at hok
      split at hok
      · exact (Bool.and_eq_true _ _ ▸ hok).1
      · exact hok
    · rw [← stepScan_other hl (.inr rfl) h]; exact hok
  | rdV | rdC | rdD => rw [← (stepScan_read rfl h).2.2.2.2.1]; exact hok
  | deref => rw [← stepScan_deref h]; exact hok
  | incV | wrD | wrC | mutate => rw [← (stepScan_write rfl h).2.2.2.1]; exact hok

theorem scan_ok {p : List Act} (hsc : scan s p = some fin) (hok : fin.ok = true) : s.ok = true := by
  induction p generalizing s with
  | nil => cases hsc; exact hok
  | cons a p ih =>
    obtain ⟨s', hss, hrest⟩ := scan_cons hsc
    exact stepScan_ok hss (ih hrest)

theorem stepFn_prog_hist (hs : stepFn c i = some c') :
    (∀ j, (c'.thr j).prog = (c.thr j).prog) ∧
    (c'.hist = c.hist ∨
      c'.hist = c.hist ++ [(c.ver, c.dsc, c.heap c.cur)] ∧ ∃ rest n, (c.thr i).todo = .rel 0 :: rest ∧
        c.owner 0 = some (i, n) ∧ n ≤ 1) := by
  unfold stepFn at hs
  cases htodo : (c.thr i).todo with
  | nil => rw [htodo] at hs; cases hs
  | cons a rest =>
    rw [htodo] at hs
    have key : ∀ t' : Thr, t'.prog = (c.thr i).prog → ∀ j, (upd c.thr i t' j).prog = (c.thr j).prog := by
      intro t' ht j
      by_cases hj : j = i
      · rw [hj, upd_same]; exact ht
      · rw [upd_other _ _ _ _ hj]
    cases a with
    | acq l => obtain ⟨_, _, rfl⟩ := stepAct_acq hs; exact ⟨key _ rfl, .inl rfl⟩
    | rel l =>
      obtain ⟨n, ho, ⟨hn, rfl⟩ | ⟨_, rfl⟩⟩ := stepAct_rel hs
      · refine ⟨key _ rfl, ?_⟩
        by_cases hl : l = 0
        · subst hl; exact .inr ⟨rfl, rest, n, rfl, ho, hn⟩
        · exact .inl (if_neg hl)
      · exact ⟨key _ rfl, .inl rfl⟩
    | deref => obtain ⟨_, _, rfl⟩ := stepAct_deref hs; exact ⟨key _ rfl, .inl rfl⟩
    | _ => cases hs; exact ⟨key _ rfl, .inl rfl⟩

theorem func_step (hg : Good c) (hf : Func c) (hcm : Committing (c.thr i).prog)
    (hs : stepFn c i = some c') : Func c' := by
  unfold Func
  rcases (stepFn_prog_hist hs).2 with he | ⟨he, rest, n, htodo, ho, hn⟩ <;> rw [he]
  · exact hf
  · obtain ⟨s, fin, h⟩ := hg.thr i
    obtain ⟨s', hss, hrest⟩ := scan_cons (htodo ▸ h.scanTodo)
    obtain ⟨rfl, hpos⟩ := depth_of_owner h ho
    -- the whole program is `Committing`, so the flag is still set after this release
    have hok : s'.ok = true := by
      unfold Committing at hcm
      rw [h.scanProg] at hcm
      exact scan_ok hrest hcm
    rw [(stepScan_rel0 hss).2.2.2.2.2, if_pos (Nat.le_antisymm hn hpos), Bool.and_eq_true, Bool.or_eq_true,
      Bool.not_eq_true'] at hok
    obtain ⟨l, hl, _, hb0, hb1, hdd⟩ := h.sect hpos
    refine func_snoc hf fun p hp e => ?_
    cases hb : s.bumped
    · -- nothing was written: the triple published now is the one published last
      obtain ⟨e1, e2⟩ := hdd (hok.2.resolve_right (hb ▸ Bool.false_ne_true))
      rw [hb0 hb, e1, e2] at e ⊢
      exact hf p hp l (List.mem_of_getLast? hl) e
    · exact absurd e (Nat.ne_of_lt (Nat.lt_of_le_of_lt (hg.lastMax l hl p hp) (hb1 hb)))

theorem func_reach {c0 c : Cfg} (hg : Good c0) (hf : Func c0) (hcm : ∀ j, Committing (c0.thr j).prog)
    (hr : Reach c0 c) : Func c ∧ ∀ j, (c.thr j).prog = (c0.thr j).prog := by
  induction hr with
  | refl => exact ⟨hf, fun _ => rfl⟩
  | step hr' hs ih =>
    refine ⟨func_step (good_reach hg hr') ih.1 (by rw [ih.2]; exact hcm _) hs, fun j => ?_⟩
    rw [(stepFn_prog_hist hs).1 j]; exact ih.2 j

end

end Sdc.LockLts
