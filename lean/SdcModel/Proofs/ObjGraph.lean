import SdcModel.ObjGraph
/-!
Identity trees of M2 `ObjGraph`: the identities of a list of trees, what a fresh copy, a construction and a parse draw
from the id supply, what an in-place update does to the identities of a tree. Core Lean only.
-/
namespace Sdc.ObjGraph

theorem maxId_ge {l : List Nat} {x : Nat} (h : x ∈ l) : x ≤ maxId l := by
  induction l with
  | nil => cases h
  | cons y ys ih =>
    rcases List.mem_cons.mp h with rfl | h
    · exact Nat.le_max_left ..
    · exact Nat.le_trans (ih h) (Nat.le_max_right ..)

theorem mem_idsL {ts : List Tree} {x : Nat} : x ∈ idsL ts ↔ ∃ t ∈ ts, x ∈ t.ids := by
  induction ts with
  | nil => simp [idsL]
  | cons t ts ih => simp [idsL, ih]

theorem idsL_of_mem {ks ks' : List Tree} {t : Tree} (hk : ∀ u ∈ ks', u ∈ ks ∨ u = t) {x : Nat}
    (h : x ∈ idsL ks') : x ∈ idsL ks ∨ x ∈ t.ids := by
  obtain ⟨u, hu, hx⟩ := mem_idsL.mp h
  rcases hk u hu with hu | rfl
  · exact .inl (mem_idsL.mpr ⟨u, hu, hx⟩)
  · exact .inr hx

theorem idsL_set {ks : List Tree} {k : Nat} {t : Tree} {x : Nat} (h : x ∈ idsL (ks.set k t)) :
    x ∈ idsL ks ∨ x ∈ t.ids :=
  idsL_of_mem (fun _ hu => List.mem_or_eq_of_mem_set hu) h

theorem idsL_append {ks : List Tree} {t : Tree} {x : Nat} (h : x ∈ idsL (ks ++ [t])) :
    x ∈ idsL ks ∨ x ∈ t.ids :=
  idsL_of_mem (fun _ hu => (List.mem_append.mp hu).imp_right List.eq_of_mem_singleton) h

theorem getD_ids {ks : List Tree} {k x : Nat} (h : x ∈ (ks.getD k (.imm 0)).ids) : x ∈ idsL ks := by
  rw [List.getD_eq_getElem?_getD] at h
  cases hk : ks[k]? with
  | none => rw [hk] at h; cases h
  | some c => rw [hk] at h; exact mem_idsL.mpr ⟨c, List.mem_of_getElem? hk, h⟩

theorem at_ids (p : List Nat) : ∀ (t u : Tree), t.at p = some u → ∀ x ∈ u.ids, x ∈ t.ids := by
  induction p with
  | nil => intro t u h x hx; cases h; exact hx
  | cons k p ih =>
    intro t u h x hx
    cases t with
    | imm v => cases h
    | obj id ks =>
      rw [Tree.at] at h
      split at h
      · rename_i c hc
        exact List.mem_cons_of_mem _ (mem_idsL.mpr ⟨c, List.mem_of_getElem? hc, ih c u h x hx⟩)
      · cases h

theorem root_mem {t : Tree} {r : Nat} (h : rootId t = some r) : r ∈ t.ids := by
  cases t with
  | imm v => cases h
  | obj id ks => cases h; exact List.mem_cons_self ..

theorem kids_ids {t : Tree} {x : Nat} (h : x ∈ idsL (kidsOf t)) : x ∈ t.ids := by
  cases t with
  | imm v => cases h
  | obj id ks => exact List.mem_cons_of_mem _ h

/-- the identities in `l` were drawn from the supply while it went from `n` to `n'` -/
def Drawn (n n' : Nat) (l : List Nat) : Prop := n ≤ n' ∧ ∀ x ∈ l, n ≤ x ∧ x < n'

theorem Drawn.nil (n : Nat) : Drawn n n [] := ⟨Nat.le_refl n, fun _ h => nomatch h⟩

theorem Drawn.append {n m n' : Nat} {l₁ l₂ : List Nat} (h₁ : Drawn n m l₁) (h₂ : Drawn m n' l₂) :
    Drawn n n' (l₁ ++ l₂) :=
  ⟨Nat.le_trans h₁.1 h₂.1, fun x hx => (List.mem_append.mp hx).elim
    (fun h => ⟨(h₁.2 x h).1, Nat.lt_of_lt_of_le (h₁.2 x h).2 h₂.1⟩)
    (fun h => ⟨Nat.le_trans h₁.1 (h₂.2 x h).1, (h₂.2 x h).2⟩)⟩

theorem Drawn.cons {n n' : Nat} {l : List Nat} (h : Drawn (n + 1) n' l) : Drawn n n' (n :: l) := by
  refine ⟨Nat.le_of_succ_le h.1, fun x hx => ?_⟩
  rcases List.mem_cons.mp hx with rfl | hx
  · exact ⟨Nat.le_refl _, h.1⟩
  · exact ⟨Nat.le_of_succ_le (h.2 x hx).1, (h.2 x hx).2⟩

mutual
theorem fresh_drawn (t : Tree) (n : Nat) : Drawn n (t.fresh n).2 (t.fresh n).1.ids := by
  cases t with
  | imm v => exact .nil n
  | obj id ks => exact (freshL_drawn ks (n + 1)).cons
theorem freshL_drawn (ts : List Tree) (n : Nat) : Drawn n (freshL n ts).2 (idsL (freshL n ts).1) := by
  cases ts with
  | nil => exact .nil n
  | cons t ts => exact (fresh_drawn t n).append (freshL_drawn ts _)
end

mutual
theorem strip_fresh (t : Tree) (n : Nat) : (t.fresh n).1.strip = t.strip := by
  cases t with
  | imm v => rfl
  | obj id ks => exact congrArg (Tree.obj 0) (stripL_freshL ks (n + 1))
theorem stripL_freshL (ts : List Tree) (n : Nat) : stripL (freshL n ts).1 = stripL ts := by
  cases ts with
  | nil => rfl
  | cons t ts =>
    show (t.fresh n).1.strip :: stripL (freshL (t.fresh n).2 ts).1 = t.strip :: stripL ts
    rw [strip_fresh t n, stripL_freshL ts _]
end

mutual
theorem mapNode_of_not_mem (tgt : Nat) (f : List Tree → List Tree) (t : Tree) (h : tgt ∉ t.ids) :
    t.mapNode tgt f = t := by
  cases t with
  | imm v => rfl
  | obj id ks =>
    simp only [Tree.ids, List.mem_cons, not_or] at h
    simp only [Tree.mapNode]
    rw [if_neg (fun e => h.1 e.symm), mapNodeL_of_not_mem tgt f ks h.2]
theorem mapNodeL_of_not_mem (tgt : Nat) (f : List Tree → List Tree) (ts : List Tree) (h : tgt ∉ idsL ts) :
    mapNodeL tgt f ts = ts := by
  cases ts with
  | nil => rfl
  | cons t ts =>
    simp only [idsL, List.mem_append, not_or] at h
    simp only [mapNodeL]
    rw [mapNode_of_not_mem tgt f t h.1, mapNodeL_of_not_mem tgt f ts h.2]
end

mutual
theorem ids_mapNode (tgt : Nat) (f : List Tree → List Tree) (P : Nat → Prop)
    (hf : ∀ ks x, x ∈ idsL (f ks) → x ∈ idsL ks ∨ P x) (t : Tree) (x : Nat)
    (h : x ∈ (t.mapNode tgt f).ids) : x ∈ t.ids ∨ P x := by
  cases t with
  | imm v => cases h
  | obj id ks =>
    simp only [Tree.mapNode] at h
    split at h <;> simp only [Tree.ids, List.mem_cons] at h ⊢
    · exact h.elim (fun h => .inl (.inl h)) fun h => (hf ks x h).imp_left .inr
    · exact h.elim (fun h => .inl (.inl h)) fun h => (ids_mapNodeL tgt f P hf ks x h).imp_left .inr
theorem ids_mapNodeL (tgt : Nat) (f : List Tree → List Tree) (P : Nat → Prop)
    (hf : ∀ ks x, x ∈ idsL (f ks) → x ∈ idsL ks ∨ P x) (ts : List Tree) (x : Nat)
    (h : x ∈ idsL (mapNodeL tgt f ts)) : x ∈ idsL ts ∨ P x := by
  cases ts with
  | nil => cases h
  | cons t ts =>
    simp only [mapNodeL, idsL, List.mem_append] at h ⊢
    exact h.elim (fun h => (ids_mapNode tgt f P hf t x h).imp_left .inl)
      fun h => (ids_mapNodeL tgt f P hf ts x h).imp_left .inr
end

theorem rootId_mapNode (tgt : Nat) (f : List Tree → List Tree) (t : Tree) :
    rootId (t.mapNode tgt f) = rootId t := by
  cases t with
  | imm v => rfl
  | obj id ks => simp only [Tree.mapNode]; split <;> rfl

theorem applyMode_drawn (D : List Tree) (n d : Nat) {m : Mode} (hm : m.ok = true) :
    Drawn n (applyMode D n d m).2 (applyMode D n d m).1.ids := by
  cases m with
  | imm v => exact .nil n
  | fresh t => exact fresh_drawn t n
  | copyDefault => exact fresh_drawn _ n
  | theDefault => cases hm

theorem applyMode_strip (D : List Tree) (n n' d : Nat) (m : Mode) :
    (applyMode D n d m).1.strip = (applyMode D n' d m).1.strip := by
  cases m <;> simp only [applyMode, strip_fresh]

theorem buildProps_drawn (D : List Tree) : ∀ (ps : List PropE) (n : Nat), (∀ p ∈ ps, p.ctor.ok = true) →
    Drawn n (buildProps D n ps).2 (idsL (buildProps D n ps).1)
  | [], n, _ => .nil n
  | p :: ps, n, hok => (applyMode_drawn D n p.desc (hok p (List.mem_cons_self ..))).append
      (buildProps_drawn D ps _ fun q hq => hok q (List.mem_cons_of_mem _ hq))

theorem buildProps_strip (D : List Tree) : ∀ (ps : List PropE) (n n' : Nat),
    stripL (buildProps D n ps).1 = stripL (buildProps D n' ps).1
  | [], n, n' => rfl
  | p :: ps, n, n' => by
    simp only [buildProps, stripL]
    rw [applyMode_strip D n n' p.desc p.ctor, buildProps_strip D ps _ (applyMode D n' p.desc p.ctor).2]

theorem tableOK_prop {T : Table} (hT : tableOK T = true) {c : Nat} {p : PropE} (hp : p ∈ propsOf T c) :
    p.ctor.ok = true ∧ p.absent.ok = true ∧ p.get.ok = true := by
  unfold propsOf at hp
  split at hp
  · rename_i ce hce
    have hc := List.all_eq_true.mp hT ce (List.mem_of_getElem? hce)
    simp only [ClsE.ok, Bool.and_eq_true, List.all_eq_true] at hc
    have := hc.1.1 p hp
    simp only [PropE.ok, Bool.and_eq_true] at this
    exact ⟨this.1.1, this.1.2, this.2⟩
  · cases hp

theorem construct_drawn {T : Table} (hT : tableOK T = true) {D : List Tree} {n c : Nat} {t : Tree} {n' : Nat}
    (h : construct T D n c = some (t, n')) : Drawn n n' t.ids := by
  simp only [construct] at h
  split at h
  · cases h
  · rename_i ce hce
    cases h
    refine (buildProps_drawn D ce.props (n + 1) fun p hp => ?_).cons
    exact (tableOK_prop (c := c) hT (by simp only [propsOf, hce]; exact hp)).1

theorem construct_strip (T : Table) (D : List Tree) (n n' c : Nat) :
    (construct T D n c).map (·.1.strip) = (construct T D n' c).map (·.1.strip) := by
  simp only [construct]
  split
  · rfl
  · simp only [Option.map_some, Tree.strip]
    rw [buildProps_strip D _ (n+1) (n'+1)]

mutual
theorem build_drawn (T : Table) (hT : tableOK T = true) (D : List Tree) (n : Nat) (m : Mode) (hm : m.ok = true)
    (d : Nat) (s : Shape) : Drawn n (s.build T D n m d).2 (s.build T D n m d).1.ids := by
  cases s with
  | absent => exact applyMode_drawn D n d hm
  | imm v => exact .nil n
  | obj c kids =>
    exact (buildKids_drawn T hT D (n + 1) (propsOf T c) (fun p hp => (tableOK_prop hT hp).2.1) kids).cons
  | list kids => exact (buildItems_drawn T hT D (n + 1) kids).cons
theorem buildKids_drawn (T : Table) (hT : tableOK T = true) (D : List Tree) (n : Nat) (ps : List PropE)
    (hp : ∀ p ∈ ps, p.absent.ok = true) (ks : List Shape) :
    Drawn n (buildKids T D n ps ks).2 (idsL (buildKids T D n ps ks).1) := by
  cases ks with
  | nil => exact .nil n
  | cons k ks =>
    cases ps with
    | nil => exact .nil n
    | cons p ps =>
      exact (build_drawn T hT D n p.absent (hp p (List.mem_cons_self ..)) p.desc k).append
        (buildKids_drawn T hT D _ ps (fun q hq => hp q (List.mem_cons_of_mem _ hq)) ks)
theorem buildItems_drawn (T : Table) (hT : tableOK T = true) (D : List Tree) (n : Nat) (ks : List Shape) :
    Drawn n (buildItems T D n ks).2 (idsL (buildItems T D n ks).1) := by
  cases ks with
  | nil => exact .nil n
  | cons k ks => exact (build_drawn T hT D n (.imm 0) rfl 0 k).append (buildItems_drawn T hT D _ ks)
end

theorem buildKids_ids (T : Table) (hT : tableOK T = true) (D : List Tree) (n : Nat) (ps : List PropE)
    (hp : ∀ p ∈ ps, p.absent.ok = true) (ks : List Shape) (x : Nat)
    (h : x ∈ idsL (buildKids T D n ps ks).1) : n ≤ x ∧ x < (buildKids T D n ps ks).2 :=
  (buildKids_drawn T hT D n ps hp ks).2 x h

theorem buildItems_ids (T : Table) (hT : tableOK T = true) (D : List Tree) (n : Nat) (ks : List Shape) (x : Nat)
    (h : x ∈ idsL (buildItems T D n ks).1) : n ≤ x ∧ x < (buildItems T D n ks).2 :=
  (buildItems_drawn T hT D n ks).2 x h

end Sdc.ObjGraph
