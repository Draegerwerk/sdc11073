import SdcModel.Proofs.MdibTables
/-!
# `subtreeBelow` with fuel `length + 1` reaches every descendant (also in the presence of parent cycles)
-/
set_option linter.unusedSimpArgs false
namespace Sdc.Mdib

theorem mem_childrenOf {t : Tables} {h : Handle} {d : Descr} : d ∈ childrenOf t h ↔ d ∈ t.descrs ∧ d.parent = some h := by
  simp [childrenOf, List.mem_filter]

theorem mem_subtreeBelow_succ {t : Tables} {k : Nat} {h : Handle} {x : Descr} :
    x ∈ subtreeBelow t (k + 1) h ↔ x ∈ childrenOf t h ∨ ∃ c ∈ childrenOf t h, x ∈ subtreeBelow t k c.handle := by
  simp only [subtreeBelow, List.mem_append, List.mem_flatMap]
  constructor
  · rintro (⟨c, hc, hx⟩ | hx)
    · exact .inr ⟨c, hc, hx⟩
    · exact .inl hx
  · rintro (hx | ⟨c, hc, hx⟩)
    · exact .inr hx
    · exact .inl ⟨c, hc, hx⟩

theorem subtreeBelow_sub (t : Tables) (k : Nat) (h : Handle) : ∀ x ∈ subtreeBelow t k h, x ∈ t.descrs := by
  induction k generalizing h with
  | zero => intro x hx; simp [subtreeBelow] at hx
  | succ k ih =>
    intro x hx
    rcases mem_subtreeBelow_succ.1 hx with hx | ⟨c, _, hx⟩
    · exact (mem_childrenOf.1 hx).1
    · exact ih _ x hx

/-- a downward path: every element is a child of the one before (the first one of `h`) -/
def IsPath (t : Tables) : Handle → List Descr → Prop
  | _, [] => True
  | h, x :: rest => x ∈ childrenOf t h ∧ IsPath t x.handle rest

theorem IsPath.sub {t : Tables} {h : Handle} {p : List Descr} (hp : IsPath t h p) : ∀ x ∈ p, x ∈ t.descrs := by
  induction p generalizing h with
  | nil => simp
  | cons y rest ih =>
    intro x hx
    rcases List.mem_cons.1 hx with rfl | hx
    · exact (mem_childrenOf.1 hp.1).1
    · exact ih hp.2 x hx

theorem IsPath.suffix {t : Tables} {h : Handle} {a : List Descr} {y : Descr} {b : List Descr}
    (hp : IsPath t h (a ++ y :: b)) : IsPath t y.handle b := by
  induction a generalizing h with
  | nil => exact hp.2
  | cons x rest ih => exact ih hp.2

theorem mem_subtreeBelow_iff {t : Tables} {k : Nat} {h : Handle} {x : Descr} :
    x ∈ subtreeBelow t k h ↔ ∃ l, IsPath t h (l ++ [x]) ∧ l.length < k := by
  induction k generalizing h with
  | zero => simp [subtreeBelow]
  | succ k ih =>
    rw [mem_subtreeBelow_succ]
    constructor
    · rintro (hx | ⟨c, hc, hx⟩)
      · exact ⟨[], ⟨hx, trivial⟩, Nat.succ_pos _⟩
      · obtain ⟨l, hl, hlen⟩ := ih.1 hx
        exact ⟨c :: l, ⟨hc, hl⟩, by simp; omega⟩
    · rintro ⟨l, hl, hlen⟩
      cases l with
      | nil => exact .inl hl.1
      | cons c l =>
        refine .inr ⟨c, hl.1, ih.2 ⟨l, hl.2, ?_⟩⟩
        simp at hlen; omega

/-- cut the loops out of a path: same end point, no handle twice -/
theorem IsPath.shorten {t : Tables} (hn : (t.descrs.map (·.handle)).Nodup) {q : List Descr} {x : Descr} {h : Handle}
    (hq : IsPath t h q) (hx : q.getLast? = some x) :
    ∃ q', IsPath t h q' ∧ q'.getLast? = some x ∧ (q'.map (·.handle)).Nodup := by
  induction q generalizing h with
  | nil => cases hx
  | cons y rest ih =>
    cases rest with
    | nil => exact ⟨[y], hq, hx, List.pairwise_singleton _ _⟩
    | cons y' rest' =>
      rw [List.getLast?_cons_cons] at hx
      obtain ⟨r, hr, hrx, hrn⟩ := ih hq.2 hx
      by_cases hy : y.handle ∈ r.map (·.handle)
      · -- `y` is on the path already: continue from there
        obtain ⟨z, hz, hzy⟩ := List.mem_map.1 hy
        have hzy' : z = y := mem_unique hn (hr.sub z hz) (mem_childrenOf.1 hq.1).1 hzy
        subst hzy'
        obtain ⟨a, b, rfl⟩ := List.append_of_mem hz
        refine ⟨z :: b, ⟨hq.1, hr.suffix⟩, ?_, ?_⟩
        · rw [← hrx, List.getLast?_append]; rfl
        · rw [List.map_append] at hrn; exact (List.nodup_append.1 hrn).2.1
      · refine ⟨y :: r, ⟨hq.1, hr⟩, ?_, List.nodup_cons.2 ⟨hy, hrn⟩⟩
        cases r with
        | nil => cases hrx
        | cons r0 r' => rw [List.getLast?_cons_cons]; exact hrx

theorem IsPath.concat {t : Tables} {q d : Descr} (hd : d ∈ childrenOf t q.handle) :
    ∀ (l : List Descr) (h : Handle), IsPath t h (l ++ [q]) → IsPath t h ((l ++ [q]) ++ [d])
  | [], _, hp => ⟨hp.1, hd, trivial⟩
  | _ :: rest, _, hp => ⟨hp.1, IsPath.concat hd rest _ hp.2⟩

/-- with fuel `length + 1` the subtree is closed under children: nothing below a removed descriptor survives -/
theorem subtree_closed {t : Tables} (hn : (t.descrs.map (·.handle)).Nodup) (h : Handle) {q : Descr} {d : Descr}
    (hq : q.handle = h ∨ q ∈ subtreeBelow t (t.descrs.length + 1) h) (hd : d ∈ childrenOf t q.handle) :
    d ∈ subtreeBelow t (t.descrs.length + 1) h := by
  have hpath : ∃ l, IsPath t h l ∧ l.getLast? = some d := by
    rcases hq with rfl | hq
    · exact ⟨[d], ⟨hd, trivial⟩, rfl⟩
    · obtain ⟨l, hl, _⟩ := mem_subtreeBelow_iff.1 hq
      exact ⟨(l ++ [q]) ++ [d], IsPath.concat hd l h hl, List.getLast?_concat⟩
  obtain ⟨l, hl, hld⟩ := hpath
  obtain ⟨q', hq', hqd, hnd⟩ := hl.shorten hn hld
  obtain ⟨p', rfl⟩ := List.getLast?_eq_some_iff.1 hqd
  refine mem_subtreeBelow_iff.2 ⟨p', hq', ?_⟩
  -- a path without repeated handles is no longer than the table
  have hsub : (p' ++ [d]).map (·.handle) ⊆ t.descrs.map (·.handle) := by
    intro a ha
    obtain ⟨z, hz, rfl⟩ := List.mem_map.1 ha
    exact List.mem_map_of_mem (hq'.sub z hz)
  have := hnd.length_le_of_subset hsub
  rw [List.length_map, List.length_map, List.length_append, List.length_singleton] at this
  omega

end Sdc.Mdib
