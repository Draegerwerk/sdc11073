import SdcModel.SendOrder
/-! The invariant `Good` of the writer interleaving semantics (`SdcModel/SendOrder.lean`) and its preservation by every step:
the send log is sorted and bounded by the MdibVersion, and every thread's remaining program is `wl`-correct for whether it
holds `L` (C04: delivery in version order). -/
namespace Sdc.SendOrder

structure Good (c : Cfg) : Prop where
  sorted : c.log.Pairwise (· ≤ ·)
  bound : ∀ v ∈ c.log, v ≤ c.ver
  thr : ∀ i, (c.owner L = some i → ∃ fresh, wl true fresh (c.thr i).prog = true ∧ (fresh = true → (c.thr i).mine = c.ver))
           ∧ (c.owner L ≠ some i → wl false false (c.thr i).prog = true)

theorem good_init (c : Cfg) (ho : ∀ l, c.owner l = none) (hl : c.log = [])
    (hp : ∀ i, WellLocked (c.thr i).prog) : Good c :=
  ⟨hl ▸ .nil, hl ▸ nofun, fun i => ⟨fun h => (nomatch (ho L).symm.trans h), fun _ => hp i⟩⟩

theorem setThr_self (c : Cfg) (i : Nat) (t : Thr) : setThr c i t i = t := if_pos rfl
theorem setThr_ne (c : Cfg) (i j : Nat) (t : Thr) (h : j ≠ i) : setThr c i t j = c.thr j := if_neg h

/-- a thread whose next action needs `L` holds it -/
theorem good_holds {c : Cfg} {i : Nat} (g : Good c) (h : wl false false (c.thr i).prog = false) :
    c.owner L = some i :=
  Decidable.byContradiction fun hne => Bool.false_ne_true (h ▸ (g.thr i).2 hne)

/-- an `acq` or `rel` of a lock other than `L`: `wl` skips it and nobody's ownership of `L` changes -/
theorem good_skip {c : Cfg} {i : Nat} {r : List Act} {o' : Nat → Option Nat} (g : Good c) (ho : o' L = c.owner L)
    (hw : ∀ held fresh, wl held fresh (c.thr i).prog = wl held fresh r) :
    Good { c with owner := o', thr := setThr c i { c.thr i with prog := r } } := by
  refine ⟨g.sorted, g.bound, fun j => ?_⟩
  dsimp only
  rw [ho]
  by_cases hj : j = i
  · have hg := g.thr i
    simp only [hw] at hg
    rw [hj, setThr_self]
    exact hg
  · rw [setThr_ne _ _ _ _ hj]
    exact g.thr j

theorem good_step {c c' : Cfg} (g : Good c) (s : Step c c') : Good c' := by
  cases s with
  | acq i l r hp ho =>
    by_cases hl : l = L
    · subst hl
      -- before: nobody owned L, so every thread is in the "not held" state
      have hnone : ∀ k, wl false false (c.thr k).prog = true := fun k => (g.thr k).2 (ho ▸ nofun)
      refine ⟨g.sorted, g.bound, fun j => ?_⟩
      dsimp only
      rw [if_pos rfl]
      by_cases hj : j = i
      · have hw := hnone i
        rw [hp] at hw
        rw [hj, setThr_self]
        exact ⟨fun _ => ⟨false, hw, nofun⟩, fun h => absurd rfl h⟩
      · rw [setThr_ne _ _ _ _ hj]
        exact ⟨fun h => absurd (Option.some.inj h).symm hj, fun _ => hnone j⟩
    · exact good_skip g (if_neg (Ne.symm hl)) fun _ _ => hp ▸ if_neg hl
  | rel i l r hp ho =>
    by_cases hl : l = L
    · subst hl
      obtain ⟨_, hw, _⟩ := (g.thr i).1 ho
      rw [hp] at hw
      refine ⟨g.sorted, g.bound, fun j => ⟨fun h => ?_, fun _ => ?_⟩⟩
      · cases h
      · dsimp only
        by_cases hj : j = i
        · rw [hj, setThr_self]; exact hw
        · rw [setThr_ne _ _ _ _ hj]
          exact (g.thr j).2 fun e => hj (Option.some.inj (ho.symm.trans e)).symm
    · exact good_skip g (if_neg (Ne.symm hl)) fun _ _ => hp ▸ if_neg hl
  | incVer i r hp =>
    have hown : c.owner L = some i := good_holds g (hp ▸ rfl)
    obtain ⟨_, hw, _⟩ := (g.thr i).1 hown
    rw [hp] at hw
    refine ⟨g.sorted, fun v hv => Nat.le_succ_of_le (g.bound v hv), fun j => ?_⟩
    dsimp only
    by_cases hj : j = i
    · rw [hj, setThr_self]
      exact ⟨fun _ => ⟨true, hw, fun _ => rfl⟩, fun h => absurd hown h⟩
    · rw [setThr_ne _ _ _ _ hj]
      exact ⟨fun h => absurd (Option.some.inj (hown.symm.trans h)).symm hj, (g.thr j).2⟩
  | send i r hp =>
    have hown : c.owner L = some i := good_holds g (hp ▸ rfl)
    obtain ⟨fresh, hw, hm⟩ := (g.thr i).1 hown
    rw [hp] at hw
    obtain ⟨hf, hw⟩ : fresh = true ∧ wl true fresh r = true := Bool.and_eq_true_iff.1 hw
    have hmine : (c.thr i).mine = c.ver := hm hf
    refine ⟨?_, fun v hv => ?_, fun j => ?_⟩
    · exact List.pairwise_append.2 ⟨g.sorted, List.pairwise_singleton _ _, fun a ha b hb =>
        List.eq_of_mem_singleton hb ▸ hmine ▸ g.bound a ha⟩
    · rcases List.mem_append.1 hv with hv | hv
      · exact g.bound v hv
      · rw [List.eq_of_mem_singleton hv]; exact Nat.le_of_eq hmine
    · dsimp only
      by_cases hj : j = i
      · rw [hj, setThr_self]
        exact ⟨fun _ => ⟨fresh, hw, hm⟩, fun h => absurd hown h⟩
      · rw [setThr_ne _ _ _ _ hj]
        exact g.thr j

theorem good_reach {c₀ c : Cfg} (g : Good c₀) (r : Reach c₀ c) : Good c := by
  induction r with
  | refl => exact g
  | step _ s ih => exact good_step ih s

end Sdc.SendOrder
