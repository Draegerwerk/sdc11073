/-!
# Lists read through a key

A table is a list whose rows carry a key (`key : α → Nat`); the lookup is `l.find? (fun x => key x == k)`, a row is
replaced by `map`, rows are removed by `filter`, a new row goes to the end. With a `Nodup` key column the lookup
characterises membership. Nothing here knows of any model: the tables, dicts and saved-version lookups of the provider
model and the mirror tables of the consumer are instances by unfolding.
-/
namespace Sdc.Keyed

theorem eq_of_nodup_map {α β : Type} {f : α → β} {l : List α} (hn : (l.map f).Nodup) {a b : α} (ha : a ∈ l) (hb : b ∈ l)
    (h : f a = f b) : a = b :=
  -- the values differ pairwise; read for both orders of `a` and `b` this says: equal values, equal rows
  List.Pairwise.forall_of_forall_of_flip (R := fun a b => f a = f b → a = b) (fun _ _ _ => rfl)
    ((List.pairwise_map.mp hn).imp fun hne he => absurd he hne)
    ((List.pairwise_map.mp hn).imp fun hne he => absurd he.symm hne) ha hb h

variable {α : Type} (key : α → Nat)

theorem find_cons (a : α) (l : List α) (k : Nat) :
    (a :: l).find? (fun x => key x == k) = if key a = k then some a else l.find? (fun x => key x == k) := by
  by_cases e : key a = k
  · rw [if_pos e, List.find?_cons_of_pos (by simpa using e)]
  · rw [if_neg e, List.find?_cons_of_neg (by simpa using e)]

theorem find_append_single (l : List α) (a : α) (k : Nat) :
    (l ++ [a]).find? (fun x => key x == k) =
      (l.find? (fun x => key x == k)).or (if key a = k then some a else none) := by
  rw [List.find?_append, find_cons]; rfl

theorem find_none_iff {l : List α} {k : Nat} :
    l.find? (fun x => key x == k) = none ↔ k ∉ l.map key := by
  rw [List.find?_eq_none, List.mem_map]
  exact ⟨fun hf ⟨a, ha, e⟩ => hf a ha (by simpa using e), fun hf a ha e => hf ⟨a, ha, by simpa using e⟩⟩

theorem find_some_key {l : List α} {k : Nat} {a : α} (hf : l.find? (fun x => key x == k) = some a) :
    key a = k ∧ a ∈ l :=
  ⟨by simpa using List.find?_some hf, List.mem_of_find?_eq_some hf⟩

theorem find_isSome_iff {l : List α} {k : Nat} :
    (l.find? (fun x => key x == k)).isSome = true ↔ k ∈ l.map key := by
  rw [← Decidable.not_iff_not, Bool.not_eq_true, Option.isSome_eq_false_iff, Option.isNone_iff_eq_none]
  exact find_none_iff key

theorem find_of_mem_nodup {l : List α} (hn : (l.map key).Nodup) {a : α} (ha : a ∈ l) :
    l.find? (fun x => key x == key a) = some a := by
  induction l with
  | nil => cases ha
  | cons b l ih =>
    rw [List.map_cons, List.nodup_cons] at hn
    rw [find_cons]
    rcases List.mem_cons.1 ha with rfl | ha'
    · rw [if_pos rfl]
    · rw [if_neg (fun e : key b = key a => hn.1 (e ▸ List.mem_map_of_mem ha')), ih hn.2 ha']

/-- removal by a condition on the key needs no uniqueness -/
theorem find_filter_key (l : List α) (p : Nat → Bool) (k : Nat) :
    (l.filter (fun x => !p (key x))).find? (fun x => key x == k) =
      if p k then none else l.find? (fun x => key x == k) := by
  induction l with
  | nil => cases p k <;> rfl
  | cons a l ih =>
    by_cases hp : p (key a) = true
    · rw [List.filter_cons_of_neg (by simp [hp]), ih, find_cons]
      by_cases hk : key a = k
      · subst hk; rw [if_pos hp, if_pos hp]
      · rw [if_neg hk]
    · rw [List.filter_cons_of_pos (by simpa using hp), find_cons, find_cons, ih]
      by_cases hk : key a = k
      · rw [if_pos hk, if_pos hk, ← hk, if_neg hp]
      · rw [if_neg hk, if_neg hk]

theorem find_filter_ne (l : List α) {k k' : Nat} (hne : k' ≠ k) :
    (l.filter (fun x => key x != k)).find? (fun x => key x == k') = l.find? (fun x => key x == k') :=
  (find_filter_key key l (· == k) k').trans (if_neg (by simpa using hne))

theorem find_filter_self (l : List α) (k : Nat) :
    (l.filter (fun x => key x != k)).find? (fun x => key x == k) = none :=
  (find_filter_key key l (· == k) k).trans (if_pos (by simp))

theorem nodup_filter_key {l : List α} (hn : (l.map key).Nodup) (p : α → Bool) : ((l.filter p).map key).Nodup :=
  (List.filter_sublist.map key).nodup hn

theorem find_filter_nodup {l : List α} (f : α → Bool) (hn : (l.map key).Nodup) (k : Nat) :
    (l.filter f).find? (fun x => key x == k) = (l.find? (fun x => key x == k)).filter f := by
  cases h : l.find? (fun x => key x == k) with
  | none =>
    rw [find_none_iff] at h
    rw [Option.filter_none, find_none_iff]
    exact fun hm => h ((List.filter_sublist.map key).subset hm)
  | some a =>
    obtain ⟨rfl, ha⟩ := find_some_key key h
    rw [Option.filter_some]
    by_cases hf : f a = true
    · rw [if_pos hf]; exact find_of_mem_nodup key (nodup_filter_key key hn f) (List.mem_filter.2 ⟨ha, hf⟩)
    · rw [if_neg hf, find_none_iff, List.mem_map]
      rintro ⟨b, hb, e⟩
      have hb' := List.mem_filter.1 hb
      exact hf (eq_of_nodup_map hn hb'.1 ha e ▸ hb'.2)

theorem nodup_append_single {l : List α} (hn : (l.map key).Nodup) {a : α} (ha : key a ∉ l.map key) :
    ((l ++ [a]).map key).Nodup := by
  rw [List.map_append, List.nodup_append]
  refine ⟨hn, List.pairwise_singleton _ _, ?_⟩
  intro x hx y hy e
  rw [List.map_singleton, List.mem_singleton] at hy
  exact ha (hy ▸ e ▸ hx)

theorem nodup_replace {l : List α} (hn : (l.map key).Nodup) {a : α} {k : Nat} (ha : key a = k) :
    ((l.filter (fun x => key x != k) ++ [a]).map key).Nodup := by
  refine nodup_append_single key (nodup_filter_key key hn _) ?_
  rw [List.mem_map]
  rintro ⟨x, hx, e⟩
  simpa [e.trans ha] using (List.mem_filter.1 hx).2

theorem map_key_replace (l : List α) (x : α) :
    (l.map (fun y => if key y == key x then x else y)).map key = l.map key := by
  rw [List.map_map]
  apply List.map_congr_left
  intro y _
  show key (if key y == key x then x else y) = key y
  by_cases e : key y = key x
  · rw [if_pos (by simpa using e)]; exact e.symm
  · rw [if_neg (by simpa using e)]

theorem mem_replace {l : List α} {x y : α} (h : y ∈ l.map (fun y => if key y == key x then x else y)) : y ∈ l ∨ y = x := by
  obtain ⟨z, hz, rfl⟩ := List.mem_map.1 h
  by_cases e : key z = key x
  · rw [if_pos (by simpa using e)]; exact .inr rfl
  · rw [if_neg (by simpa using e)]; exact .inl hz

theorem find_replace (l : List α) (x : α) (k : Nat) :
    (l.map (fun y => if key y == key x then x else y)).find? (fun y => key y == k) =
      if k = key x then (if (l.find? (fun y => key y == k)).isSome then some x else none)
      else l.find? (fun y => key y == k) := by
  induction l with
  | nil => by_cases e : k = key x <;> simp [e]
  | cons y ys ih =>
    rw [List.map_cons, find_cons, find_cons key y ys k, ih]
    by_cases e : key y = key x
    · have e' : (key y == key x) = true := by simpa using e
      rw [if_pos e']
      by_cases ek : k = key x
      · subst ek; simp [e]
      · have h1 : ¬ key x = k := fun h => ek h.symm
        have h2 : ¬ key y = k := fun h => ek (h.symm.trans e)
        simp [ek, h1, h2]
    · have e' : ¬ (key y == key x) = true := by simpa using e
      rw [if_neg e']
      by_cases ek : key y = k
      · have h1 : ¬ k = key x := fun h => e (ek.trans h)
        simp [ek, h1]
      · simp [ek]

theorem replace_self {l : List α} {x : α} (hn : (l.map key).Nodup) (h : l.find? (fun y => key y == key x) = some x) :
    l.map (fun y => if key y == key x then x else y) = l := by
  have hx := (find_some_key key h).2
  refine (List.map_congr_left fun y hy => ?_).trans (List.map_id l)
  by_cases e : key y = key x
  · rw [if_pos (by simpa using e)]; exact (eq_of_nodup_map hn hy hx e).symm
  · rw [if_neg (by simpa using e)]; rfl

end Sdc.Keyed
