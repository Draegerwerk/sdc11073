import SdcModel.Proofs.MdibLink
import SdcModel.Proofs.MdibResult
/-!
# state and context transactions satisfy the consumer contract

Statement vocabulary defined here: `CCall.isDel`, `NoDel` (hypothesis of `C01.provider_reports_describe_context`, part of `C01.LinkOK`);
`CItemX` serves the proofs only.
-/
namespace Sdc.Mdib
open Sdc.Consumer

theorem PFacts.of_noDescr {t t' : Mdib.Tables} {r : TxResult} (hw : WF t) (hw' : WF t') (hver : t.ver < t'.ver)
    (hd : t'.descrs = t.descrs) (hu : r.descrUpdated = []) (hc : r.descrCreated = []) (hdl : r.descrDeleted = [])
    (hne : r.allS ≠ [] ∨ r.ctx ≠ [])
    (sSound : ∀ s ∈ r.allS, findS t' s.dh = some s) (sNewer : ∀ s ∈ r.allS, ∀ old, findS t s.dh = some old → old.sv < s.sv)
    (sComplete : ∀ s ∈ t'.states, findS t s.dh = some s ∨ s ∈ r.allS) (sKept : ∀ s ∈ t.states, (findS t' s.dh).isSome)
    (cSound : ∀ c ∈ r.ctx, findC t' c.h = some c) (cNewer : ∀ c ∈ r.ctx, ∀ old, findC t c.h = some old → old.sv < c.sv)
    (cComplete : ∀ c ∈ t'.ctx, findC t c.h = some c ∨ c ∈ r.ctx) (cKept : ∀ c ∈ t.ctx, (findC t' c.h).isSome)
    (cStable : ∀ c ∈ t'.ctx, ∀ old, findC t c.h = some old → old.dh = c.dh) : PFacts t t' r where
  ver := hver
  wf := hw
  wf' := hw'
  some_ := hne.elim .inl (.inr ∘ .inl)
  partsDistinct := by rw [hu, hc, hdl]; exact List.nodup_nil
  created := by rw [hc]; exact List.forall_mem_nil _
  updated := by rw [hu]; exact List.forall_mem_nil _
  deleted := by rw [hdl]; exact List.forall_mem_nil _
  descrComplete := fun d hd' => .inl (hw.findD_of_mem (hd ▸ hd'))
  descrRemoved := fun d hd' => .inl (by rw [findD, hd]; exact congrArg Option.isSome (hw.findD_of_mem hd'))
  flat := fun q i => by rw [resParts, hu, hc, hdl]; rfl
  stateSound := sSound
  stateNewer := sNewer
  stateComplete := sComplete
  stateRemoved := fun s hs => .inl (sKept s hs)
  cstateSound := cSound
  cstateNewer := cNewer
  cstateComplete := cComplete
  cstateRemoved := fun c hc' => .inl (cKept c hc')
  cstateStable := cStable
  ctxUpdateLists := by rw [hu]; exact List.forall_mem_nil _

theorem pfacts_state {t t' : Mdib.Tables} {r : TxResult} (hw : WF t) {s : SScript} (hk : s.kind ≠ .context)
    (h : runS t s = (t', r, .committed)) : PFacts t t' r := by
  have htr := (result_truthful_S hw h).1
  have hco := result_complete_S hw hk h
  have hwf' : WF t' := by have := (runS_ok hw s).2; rw [h] at this; exact this
  obtain ⟨items, hi, rfl, rfl, hne⟩ := runS_committed hw h
  have hfr := applySItems_frame { t with ver := t.ver + 1 } items
  have hS := allS_putStates s.kind (items.map (·.2.new)) hk
  obtain ⟨hc, hu, hdl, hctx⟩ := putStates_frame {} s.kind (items.map (·.2.new))
  refine .of_noDescr hw hwf' ?_ hfr.1 hu hc hdl
    (.inl ?_) htr ?_ (fun x hx => reported_of_changed htr (fun k hne => .inl (hco k hne)) (hwf'.findS_of_mem hx)) ?_
    (by rw [hctx]; exact List.forall_mem_nil _) (by rw [hctx]; exact List.forall_mem_nil _) ?_ ?_ ?_
  · rw [applySItems_ver]; exact Nat.lt_succ_self _
  · rw [hS]; exact fun e => hne (List.map_eq_nil_iff.1 e)
  · rw [hS]
    intro x hx old ho
    obtain ⟨p, hp, rfl⟩ := List.mem_map.1 hx
    rw [hi.dh p hp] at ho
    exact (hi.bump p hp).1 old ho
  · intro x hx
    rw [applySItems_findS hi]
    cases dictGet items x.dh
    · exact congrArg Option.isSome (hw.findS_of_mem hx)
    · rfl
  · intro c hc; exact .inl (hw.findC_of_mem (hfr.2.1 ▸ hc))
  · intro c hc; rw [findC, hfr.2.1]; exact congrArg Option.isSome (hw.findC_of_mem hc)
  · intro c hc old ho
    rw [hw.findC_of_mem (hfr.2.1 ▸ hc)] at ho; cases ho; rfl

def CCall.isDel : CCall → Bool
  | .del _ => true
  | _ => false

/-- the script deletes no context state (`write_entity` with a state removed from the entity): a deleted context state
    cannot be reported -/
def NoDel (s : CScript) : Prop := ∀ c ∈ s.calls, c.isDel = false
instance (s : CScript) : Decidable (NoDel s) := by unfold NoDel; infer_instance

/-- the new state of the item stays with the descriptor of the old one, and the item deletes nothing -/
def CItemX (p : Handle × CItem) : Prop := (∀ o ∈ p.2.old, ∀ n ∈ p.2.new, o.dh = n.dh) ∧ p.2.new ≠ none

theorem CItemFrom.x {t : Mdib.Tables} {c : CCall} {l : List (Handle × CItem)} {h : Handle} {it : CItem} (hd : c.isDel = false)
    (hl : ∀ p ∈ l, CItemX p) (hi : CItemFrom t c l h it) : CItemX (h, it) := by
  cases hi with
  | fetched ho hh hdh hdv hsv => exact ⟨fun _ ho' _ hn' => by cases ho'; cases hn'; exact hdh.symm, Option.some_ne_none _⟩
  | edited hm hh hdh hdv hsv =>
    exact ⟨fun o' ho' _ hn' => by cases hn'; exact ((hl _ hm).1 o' ho' _ rfl).trans hdh.symm, Option.some_ne_none _⟩
  | created hc hd' hk hh hdh hdv hex hgen => exact ⟨fun _ ho => (nomatch ho), Option.some_ne_none _⟩
  | deleted hc ho => subst hc; cases hd

theorem cCall_x {t : Mdib.Tables} (hw : WF t) {tx tx' : CTx} {c : CCall} (hd : c.isDel = false) (hi : ∀ p ∈ tx.items, CItemX p)
    (h : cCall t tx c = .ok tx') : ∀ p ∈ tx'.items, CItemX p :=
  (cCall_reach hw.cKeys h).2.forall (fun _ _ _ hl hv => CItemFrom.x hd hl hv) hi

theorem pfacts_context {t t' : Mdib.Tables} {r : TxResult} (hw : WF t) {s : CScript} (hf : FreshUuids t s) (hnd : NoDel s)
    (h : runC t s = (t', r, .committed)) : PFacts t t' r := by
  have htr := (result_truthful_C hw hf h).1
  have hco := result_complete_C hw hf h
  have hwf' : WF t' := by have := runC_wf hw s; rw [h] at this; exact this
  obtain ⟨tx, htx, hi, rfl, rfl, hne⟩ := runC_committed hw hf h
  have hX := runCalls_inv_of (fun tx : CTx => ∀ p ∈ tx.items, CItemX p) (fun c => c.isDel = false)
    (fun _ _ _ hg hp hc => cCall_x hw hg hp hc) s.catchErrors s.calls { newVer := t.ver + 1 } tx (fun c hc => hnd c hc) (List.forall_mem_nil _) htx
  generalize tx.items = items at hi hX hne htr hco hwf' ⊢
  have hfr := applyCItems_frame { t with ver := t.ver + 1 } items
  have hfC := applyCItems_findC hi
  refine .of_noDescr hw hwf' ?_ hfr.1 rfl rfl rfl (.inr ?_) (List.forall_mem_nil _) (List.forall_mem_nil _)
    (fun x hx => .inl (hw.findS_of_mem (hfr.2.1 ▸ hx))) ?_
    htr ?_ (fun c hc => reported_of_changed htr hco (hwf'.findC_of_mem hc)) ?_ ?_
  · rw [applyCItems_ver]; exact Nat.lt_succ_self _
  · -- the first item reports its state
    cases items with
    | nil => exact absurd rfl hne
    | cons p rest =>
      obtain ⟨n, hn⟩ := Option.ne_none_iff_exists'.1 (hX p List.mem_cons_self).2
      exact fun e => by rw [List.filterMap_cons, hn] at e; cases e
  · intro x hx; rw [findS, hfr.2.1]; exact congrArg Option.isSome (hw.findS_of_mem hx)
  · intro c hc old ho
    obtain ⟨p, hp, e⟩ := List.mem_filterMap.1 hc
    rw [hi.h p hp c e] at ho
    exact (hi.bump rfl p hp c e).1 old ho
  · intro c hc
    rw [hfC]
    cases hg : dictGet items c.h with
    | none => exact congrArg Option.isSome (hw.findC_of_mem hc)
    | some it => exact Option.isSome_iff_ne_none.2 (hX _ (dictGet_some_mem hg)).2
  · intro c hc old ho
    have hc' := hwf'.findC_of_mem hc
    rw [hfC] at hc'
    cases hg : dictGet items c.h with
    | none => rw [hg] at hc'; rw [show findC t c.h = some c from hc'] at ho; cases ho; rfl
    | some it =>
      rw [hg] at hc'
      have hm := dictGet_some_mem hg
      exact (hX _ hm).1 old ((hi.exact _ hm).trans ho) c hc'

end Sdc.Mdib
