import SdcModel.Proofs.MdibDUpd
/-!
# the descriptor items of a commit, one traversal for three invariants
`CInv` (MdibDCommit): the tables stay coherent; `RInv`: what the result says about descriptors is true of the tables and complete;
`RExt`: what the consumer contract needs beyond that. Each kind of item (create / delete / update) carries all three;
`commitDItems_result` folds them.
-/
namespace Sdc.Mdib

variable {t₀ : Tables} {tx₀ : DTx} {del : List Handle} {pend : List (Handle × DItem)}

/-- What the result `R` under construction says about descriptors is true of the current tables `T`, and complete. `cre`, `upd`,
    `delr`: a reported creation / update / deletion is in (gone from) `T`; an updated handle survives and is reported for an
    update item already processed (not in `pend`) or as a bumped parent. `comp`: complete, every handle whose record differs
    from `t₀` is reported. `sl`: the state lists are still empty. -/
structure RInv (t₀ : Tables) (tx₀ : DTx) (del : List Handle) (pend : List (Handle × DItem)) (T : Tables) (R : TxResult) : Prop where
  cre : ∀ d ∈ R.descrCreated, findD T d.handle = some d ∧ d.handle ∈ toCreateOf tx₀
  upd : ∀ d ∈ R.descrUpdated, (∃ d', findD T d.handle = some d' ∧ d'.ver = d.ver ∧ d'.body = d.body ∧ d'.kind = d.kind) ∧
    d.handle ∉ del ∧ ((∃ o n, (d.handle, (⟨some o, some n⟩ : DItem)) ∈ tx₀.descr ∧ (d.handle, (⟨some o, some n⟩ : DItem)) ∉ pend) ∨
      d.handle ∉ toUpdateOf tx₀)
  delr : ∀ d ∈ R.descrDeleted, findD T d.handle = none ∧ d.handle ∈ del
  comp : ∀ h, findD T h ≠ findD t₀ h → h ∈ (R.descrCreated ++ R.descrUpdated ++ R.descrDeleted).map (·.handle)
  sl : R.metric = [] ∧ R.alert = [] ∧ R.comp = [] ∧ R.op = [] ∧ R.rt = [] ∧ R.ctx = []

theorem RInv.init (t : Tables) (tx : DTx) (del : List Handle) (pend : List (Handle × DItem)) (v : Nat) :
    RInv t tx del pend { t with ver := v } {} :=
  ⟨fun _ h => (nomatch h), fun _ h => (nomatch h), fun _ h => (nomatch h), fun _ hne => absurd rfl hne, ⟨rfl, rfl, rfl, rfl, rfl, rfl⟩⟩

theorem RInv.drop {T : Tables} {R : TxResult} {p : Handle × DItem} (h : RInv t₀ tx₀ del (p :: pend) T R) : RInv t₀ tx₀ del pend T R := by
  refine { h with upd := ?_ }
  intro d hd
  obtain ⟨a, b, c⟩ := h.upd d hd
  refine ⟨a, b, ?_⟩
  rcases c with ⟨o, n, h1, h2⟩ | c
  · exact .inl ⟨o, n, h1, fun hm => h2 (List.mem_cons_of_mem _ hm)⟩
  · exact .inr c

theorem findD_append_ne (T : Tables) {n : Descr} {k : Handle} (hk : k ≠ n.handle) :
    findD { T with descrs := T.descrs ++ [n] } k = findD T k := by
  rw [findD_append, if_neg (fun e => hk e.symm), Option.or_none]

theorem mem_lists_mono {R : TxResult} {h : Handle} {a b c : List Descr}
    (hm : h ∈ (R.descrCreated ++ R.descrUpdated ++ R.descrDeleted).map (·.handle)) :
    h ∈ ((R.descrCreated ++ a) ++ (R.descrUpdated ++ b) ++ (R.descrDeleted ++ c)).map (·.handle) := by
  simp only [List.map_append, List.mem_append] at hm ⊢
  rcases hm with (hm | hm) | hm
  · exact .inl (.inl (.inl hm))
  · exact .inl (.inr (.inl hm))
  · exact .inr (.inl hm)

/-- `add_object_no_lock(n)` + report as created -/
theorem RInv.add {T : Tables} {R : TxResult} (h : RInv t₀ tx₀ del pend T R) {n : Descr} (hfresh : findD T n.handle = none)
    (hc : n.handle ∈ toCreateOf tx₀) (hnd : n.handle ∉ del) :
    RInv t₀ tx₀ del pend { T with descrs := T.descrs ++ [n] } { R with descrCreated := R.descrCreated ++ [n] } := by
  have hf := fun k (hk : k ≠ n.handle) => findD_append_ne T hk
  have hf' : findD { T with descrs := T.descrs ++ [n] } n.handle = some n := by
    rw [findD_append, hfresh, if_pos rfl]; rfl
  have hpres : ∀ k x, findD T k = some x → k ≠ n.handle := by
    intro k x hx e; rw [e, hfresh] at hx; cases hx
  refine ⟨?_, ?_, ?_, ?_, h.sl⟩
  · intro d hd
    simp only [List.mem_append, List.mem_singleton] at hd
    rcases hd with hd | rfl
    · obtain ⟨a, b⟩ := h.cre d hd
      exact ⟨by rw [hf _ (hpres _ _ a)]; exact a, b⟩
    · exact ⟨hf', hc⟩
  · intro d hd
    obtain ⟨⟨d', a1, a2⟩, b, c⟩ := h.upd d hd
    exact ⟨⟨d', by rw [hf _ (hpres _ _ a1)]; exact a1, a2⟩, b, c⟩
  · intro d hd
    obtain ⟨a, b⟩ := h.delr d hd
    exact ⟨by rw [hf _ (fun e => hnd (e ▸ b))]; exact a, b⟩
  · intro k hk
    by_cases e : k = n.handle
    · subst e
      exact List.mem_map_of_mem (List.mem_append_left _ (List.mem_append_left _ (List.mem_append_right _ (List.mem_singleton_self n))))
    · rw [hf k e] at hk
      have := mem_lists_mono (a := [n]) (b := []) (c := []) (h.comp k hk)
      rwa [List.append_nil, List.append_nil] at this

theorem RInv.repl {T : Tables} {R : TxResult} (h : RInv t₀ tx₀ del pend T R) (hn : (T.descrs.map (·.handle)).Nodup)
    {d d' r : Descr} (hd : d ∈ T.descrs) (e1 : d'.handle = d.handle) (er : r.handle = d.handle ∧ d'.ver = r.ver ∧ d'.body = r.body ∧ d'.kind = r.kind)
    (hq1 : d.handle ∉ toCreateOf tx₀) (hq2 : d.handle ∉ del) (hq3 : ∀ x ∈ R.descrUpdated, x.handle ≠ d.handle)
    (hq4 : (∃ o n, (d.handle, (⟨some o, some n⟩ : DItem)) ∈ tx₀.descr ∧ (d.handle, (⟨some o, some n⟩ : DItem)) ∉ pend) ∨
      d.handle ∉ toUpdateOf tx₀) :
    RInv t₀ tx₀ del pend (replaceDescr T d') { R with descrUpdated := R.descrUpdated ++ [r] } := by
  have hf := findD_replaceDescr hn hd e1
  have hdq : findD T d.handle = some d := find_of_mem_nodup (fun x : Descr => x.handle) hn hd
  refine ⟨?_, ?_, ?_, ?_, h.sl⟩
  · intro x hx
    obtain ⟨a, b⟩ := h.cre x hx
    have : x.handle ≠ d.handle := fun e => hq1 (e ▸ b)
    exact ⟨by rw [hf, if_neg this]; exact a, b⟩
  · intro x hx
    simp only [List.mem_append, List.mem_singleton] at hx
    rcases hx with hx | rfl
    · obtain ⟨⟨x', a1, a2⟩, b, c⟩ := h.upd x hx
      exact ⟨⟨x', by rw [hf, if_neg (hq3 x hx)]; exact a1, a2⟩, b, c⟩
    · refine ⟨⟨d', by rw [hf, er.1, if_pos rfl], er.2⟩, by rw [er.1]; exact hq2, by rw [er.1]; exact hq4⟩
  · intro x hx
    obtain ⟨a, b⟩ := h.delr x hx
    have : x.handle ≠ d.handle := fun e => by rw [e, hdq] at a; cases a
    exact ⟨by rw [hf, if_neg this]; exact a, b⟩
  · intro k hk
    by_cases e : k = d.handle
    · subst e
      exact er.1 ▸ List.mem_map_of_mem (List.mem_append_left _ (List.mem_append_right _ (List.mem_append_right _ (List.mem_singleton_self r))))
    · rw [hf, if_neg e] at hk
      have := mem_lists_mono (a := []) (b := [r]) (c := []) (h.comp k hk)
      rwa [List.append_nil, List.append_nil] at this

theorem RInv.congr {T : Tables} {R : TxResult} (h : RInv t₀ tx₀ del pend T R) {L : List Descr}
    (hm : ∀ x, x ∈ L ↔ x ∈ T.descrs) (hn : (L.map (·.handle)).Nodup) : RInv t₀ tx₀ del pend { T with descrs := L } R := by
  have hf := findD_congr_mem hm hn
  refine ⟨?_, ?_, ?_, ?_, h.sl⟩
  · intro d hd; rw [hf]; exact h.cre d hd
  · intro d hd; rw [hf]; exact h.upd d hd
  · intro d hd; rw [hf]; exact h.delr d hd
  · intro k; rw [hf]; exact h.comp k

theorem Removed.findD {D : Handle → Prop} {T T1 : Tables} (R : Removed D T T1) (hn : (T.descrs.map (·.handle)).Nodup) (k : Handle) :
    (D k → Sdc.Mdib.findD T1 k = none) ∧ (¬ D k → Sdc.Mdib.findD T1 k = Sdc.Mdib.findD T k) := by
  have hn1 : (T1.descrs.map (·.handle)).Nodup := (R.dSub.map _).nodup hn
  constructor
  · intro hk
    apply (find_none_iff (fun d : Descr => d.handle)).2
    intro hm
    obtain ⟨x, hx, e⟩ := List.mem_map.1 hm
    exact ((R.descrs x).1 hx).2 (e ▸ hk)
  · intro hk
    cases hf : Sdc.Mdib.findD T k with
    | none =>
      apply (find_none_iff (fun d : Descr => d.handle)).2
      intro hm
      obtain ⟨x, hx, e⟩ := List.mem_map.1 hm
      exact (find_none_iff (fun d : Descr => d.handle)).1 hf (List.mem_map.2 ⟨x, ((R.descrs x).1 hx).1, e⟩)
    | some x =>
      obtain ⟨e, hx⟩ := findD_some hf
      have := find_of_mem_nodup (fun d : Descr => d.handle) hn1 ((R.descrs x).2 ⟨hx, by rw [e]; exact hk⟩)
      simp only [e] at this
      exact this

/-- `rm_descriptors_and_states(all)` + report as deleted -/
theorem RInv.rm {T : Tables} {R : TxResult} (h : RInv t₀ tx₀ del pend T R) (hn : (T.descrs.map (·.handle)).Nodup)
    (hc : (T.ctx.map (·.h)).Nodup) (all : List Descr) (hD : ∀ x ∈ all, x.handle ∈ del)
    (hcre : ∀ k ∈ toCreateOf tx₀, k ∉ del) :
    RInv t₀ tx₀ del pend (all.foldl rmDescrAndStates T) { R with descrDeleted := R.descrDeleted ++ all } := by
  have Rm := removed_foldl all hc
  have hD' : ∀ k, k ∈ all.map (·.handle) → k ∈ del := by
    intro k hk; obtain ⟨x, hx, rfl⟩ := List.mem_map.1 hk; exact hD x hx
  refine ⟨?_, ?_, ?_, ?_, h.sl⟩
  · intro d hd
    obtain ⟨a, b⟩ := h.cre d hd
    exact ⟨by rw [(Rm.findD hn _).2 (fun hk => hcre _ b (hD' _ hk))]; exact a, b⟩
  · intro d hd
    obtain ⟨⟨d', a1, a2⟩, b, c⟩ := h.upd d hd
    exact ⟨⟨d', by rw [(Rm.findD hn _).2 (fun hk => b (hD' _ hk))]; exact a1, a2⟩, b, c⟩
  · intro d hd
    simp only [List.mem_append] at hd
    rcases hd with hd | hd
    · obtain ⟨a, b⟩ := h.delr d hd
      refine ⟨?_, b⟩
      by_cases hk : d.handle ∈ all.map (·.handle)
      · exact (Rm.findD hn _).1 hk
      · rw [(Rm.findD hn _).2 hk]; exact a
    · exact ⟨(Rm.findD hn _).1 (List.mem_map_of_mem hd), hD d hd⟩
  · intro k hk
    by_cases hkD : k ∈ all.map (·.handle)
    · rw [List.map_append, List.map_append]; exact List.mem_append_right _ (by rw [List.map_append]; exact List.mem_append_right _ hkD)
    · rw [(Rm.findD hn _).2 hkD] at hk
      have := mem_lists_mono (a := []) (b := []) (c := all) (h.comp k hk)
      rwa [List.append_nil, List.append_nil] at this

theorem RInv.incPar {c : DCommit} (hr : RInv t₀ tx₀ del pend c.t c.res) (hn : (c.t.descrs.map (·.handle)).Nodup) {q : Handle}
    (hq1 : q ∉ toCreateOf tx₀) (hq2 : q ∉ del) (hq3 : q ∉ toUpdateOf tx₀) :
    RInv t₀ tx₀ del pend (Sdc.Mdib.incParent c q).t (Sdc.Mdib.incParent c q).res := by
  rcases incParent_cases c q with e | ⟨p, hp, hany, e⟩
  · rw [e]; exact hr
  · obtain ⟨hph, hpm⟩ := findD_some hp
    rw [e, updCorresponding_t, updCorresponding_res]
    exact hr.repl hn (d := p) (d' := { p with ver := p.ver + 1 }) (r := { p with ver := p.ver + 1 }) hpm rfl ⟨rfl, rfl, rfl, rfl⟩
      (by rw [hph]; exact hq1) (by rw [hph]; exact hq2) (by rw [hph]; exact hany) (.inr (by rw [hph]; exact hq3))

def isDelItem (p : Handle × DItem) : Bool := p.2.old.isSome && p.2.new.isNone

def delOld (p : Handle × DItem) : Option Descr := if p.2.new.isNone then p.2.old else none

/-- in item order, every child (in `t`) of a removed descriptor is removed by an earlier item: the transaction removes
    subtrees bottom-up, one `remove_descriptor` per descriptor -/
def DeletesFlatFrom (t : Tables) : List (Handle × DItem) → List (Handle × DItem) → Prop
  | _, [] => True
  | pre, p :: rest =>
    (isDelItem p = true → ∀ c ∈ t.descrs, c.parent = some p.1 → ∃ q ∈ pre, isDelItem q = true ∧ q.1 = c.handle) ∧
    DeletesFlatFrom t (pre ++ [p]) rest

instance (t : Tables) : ∀ (pre rest : List (Handle × DItem)), Decidable (DeletesFlatFrom t pre rest)
  | _, [] => isTrue trivial
  | pre, p :: rest =>
    have := instDecidableDeletesFlatFrom t (pre ++ [p]) rest
    by unfold DeletesFlatFrom; infer_instance

/-- updated descriptors keep parent and source mds (true for `get_descriptor`; for `write_entity` it says that the entity's
    descriptor has the parent / source mds of the table's descriptor) -/
def KeepsParent (tx : DTx) : Prop := ∀ p ∈ tx.descr, ∀ o ∈ p.2.old, ∀ n ∈ p.2.new, n.parent = o.parent ∧ n.mds = o.mds
instance (tx : DTx) : Decidable (KeepsParent tx) := by unfold KeepsParent; infer_instance

/-- What the consumer contract needs beyond `RInv`; `done`: the items processed so far, in order. `updV`, `updIn`, `updEq`: a
    reported update is of a descriptor of `t₀`, has a larger version and is the table's record; `sGone`, `cGone`: a state of `t₀`
    is unchanged or its descriptor is reported deleted; `rootsGone`: the descriptor of a processed delete item is gone; `delEq`:
    the deletions are reported in item order, one per delete item; `ne`: once an item is processed something is reported. -/
structure RExt (t₀ : Tables) (tx₀ : DTx) (done : List (Handle × DItem)) (T : Tables) (R : TxResult) : Prop where
  updV : ∀ d ∈ R.descrUpdated, ∀ d0 ∈ t₀.descrs, d0.handle = d.handle → d0.ver < d.ver
  updIn : ∀ d ∈ R.descrUpdated, d.handle ∈ t₀.descrs.map (·.handle)
  updEq : ∀ d ∈ R.descrUpdated, findD T d.handle = some d
  sGone : ∀ h a, findS t₀ h = some a → findS T h = some a ∨ h ∈ R.descrDeleted.map (·.handle)
  cGone : ∀ k x, findC t₀ k = some x → findC T k = some x ∨ x.dh ∈ R.descrDeleted.map (·.handle)
  rootsGone : ∀ p ∈ done, isDelItem p = true → findD T p.1 = none
  delEq : R.descrDeleted = done.filterMap delOld
  nodupC : (R.descrCreated.map (·.handle)).Nodup
  nodupU : (R.descrUpdated.map (·.handle)).Nodup
  ne : done ≠ [] → R.descrCreated ++ R.descrUpdated ++ R.descrDeleted ≠ []

theorem RExt.init (t : Tables) (tx : DTx) (v : Nat) : RExt t tx [] { t with ver := v } {} :=
  ⟨fun _ h => (nomatch h), fun _ h => (nomatch h), fun _ h => (nomatch h), fun _ _ h => .inl h, fun _ _ h => .inl h,
    fun _ h => (nomatch h), rfl, List.nodup_nil, List.nodup_nil, fun h => absurd rfl h⟩

variable {done : List (Handle × DItem)} {T : Tables} {R : TxResult}

theorem RExt.add (h : RExt t₀ tx₀ done T R) {n : Descr} (hfresh : findD T n.handle = none)
    (hnc : ∀ d ∈ R.descrCreated, d.handle ≠ n.handle) (hroot : ∀ p ∈ done, isDelItem p = true → p.1 ≠ n.handle) :
    RExt t₀ tx₀ done { T with descrs := T.descrs ++ [n] } { R with descrCreated := R.descrCreated ++ [n] } := by
  have hf := fun k (hk : k ≠ n.handle) => findD_append_ne T hk
  refine ⟨h.updV, h.updIn, ?_, h.sGone, h.cGone, ?_, h.delEq, ?_, h.nodupU, by simp⟩
  · intro d hd
    have := h.updEq d hd
    rw [hf _ (fun e => by rw [e, hfresh] at this; cases this)]; exact this
  · intro p hp hd
    rw [hf _ (hroot p hp hd)]; exact h.rootsGone p hp hd
  · simp only [List.map_append, List.map_cons, List.map_nil]
    rw [List.nodup_append]
    refine ⟨h.nodupC, by simp, ?_⟩
    intro a ha b hb
    simp only [List.mem_singleton] at hb; subst hb
    obtain ⟨d, hd, rfl⟩ := List.mem_map.1 ha
    exact hnc d hd

theorem RExt.repl (h : RExt t₀ tx₀ done T R) (hn : (T.descrs.map (·.handle)).Nodup) {d d' r : Descr} (hd : d ∈ T.descrs)
    (e1 : d'.handle = d.handle) (er : r.handle = d.handle) (hv : ∀ d0 ∈ t₀.descrs, d0.handle = d.handle → d0.ver < r.ver)
    (hin : d.handle ∈ t₀.descrs.map (·.handle)) (heq : d' = r) (hq3 : ∀ x ∈ R.descrUpdated, x.handle ≠ d.handle) :
    RExt t₀ tx₀ done (replaceDescr T d') { R with descrUpdated := R.descrUpdated ++ [r] } := by
  have hf := findD_replaceDescr hn hd e1
  have hdq : findD T d.handle = some d := find_of_mem_nodup (fun x : Descr => x.handle) hn hd
  refine ⟨?_, ?_, ?_, h.sGone, h.cGone, ?_, h.delEq, h.nodupC, ?_, by simp⟩
  · intro x hx d0 hd0 e
    simp only [List.mem_append, List.mem_singleton] at hx
    rcases hx with hx | rfl
    · exact h.updV x hx d0 hd0 e
    · exact hv d0 hd0 (e.trans er)
  · intro x hx
    simp only [List.mem_append, List.mem_singleton] at hx
    rcases hx with hx | rfl
    · exact h.updIn x hx
    · rw [er]; exact hin
  · intro x hx
    simp only [List.mem_append, List.mem_singleton] at hx
    rcases hx with hx | rfl
    · rw [hf, if_neg (hq3 x hx)]; exact h.updEq x hx
    · rw [hf, er, if_pos rfl, heq]
  · intro p hp hdel
    have := h.rootsGone p hp hdel
    have hne : p.1 ≠ d.handle := fun e => by rw [e, hdq] at this; cases this
    rw [hf, if_neg hne]; exact this
  · simp only [List.map_append, List.map_cons, List.map_nil]
    rw [List.nodup_append]
    refine ⟨h.nodupU, by simp, ?_⟩
    intro a ha b hb
    simp only [List.mem_singleton] at hb; subst hb
    obtain ⟨x, hx, rfl⟩ := List.mem_map.1 ha
    rw [er]; exact hq3 x hx

theorem RExt.congr (h : RExt t₀ tx₀ done T R) {L : List Descr}
    (hm : ∀ x, x ∈ L ↔ x ∈ T.descrs) (hn : (L.map (·.handle)).Nodup) : RExt t₀ tx₀ done { T with descrs := L } R := by
  have hf := findD_congr_mem hm hn
  refine { h with updEq := ?_, rootsGone := ?_ }
  · intro d hd; rw [hf]; exact h.updEq d hd
  · intro p hp hd; rw [hf]; exact h.rootsGone p hp hd

theorem RExt.push (h : RExt t₀ tx₀ done T R) {p : Handle × DItem} (hnew : p.2.new ≠ none)
    (hne : R.descrCreated ++ R.descrUpdated ++ R.descrDeleted ≠ []) : RExt t₀ tx₀ (done ++ [p]) T R := by
  have hd : isDelItem p = false := by
    unfold isDelItem; cases hn : p.2.new with
    | none => exact absurd hn hnew
    | some n => exact Bool.and_false _
  have ho : delOld p = none := by
    unfold delOld; cases hn : p.2.new with
    | none => exact absurd hn hnew
    | some n => rfl
  refine { h with rootsGone := ?_, delEq := ?_, ne := fun _ => hne }
  · intro q hq hq'
    rcases List.mem_append.1 hq with hq | hq
    · exact h.rootsGone q hq hq'
    · rw [List.mem_singleton.1 hq, hd] at hq'; cases hq'
  · rw [List.filterMap_append, h.delEq, List.filterMap_cons, ho, List.filterMap_nil, List.append_nil]

theorem RExt.rmPush (h : RExt t₀ tx₀ done T R) (hn : (T.descrs.map (·.handle)).Nodup) (hc : (T.ctx.map (·.h)).Nodup)
    {k : Handle} {o : Descr} (all : List Descr) (hall : all = [o]) (hk : o.handle = k)
    (hud : ∀ d ∈ R.descrUpdated, d.handle ∉ all.map (·.handle)) :
    RExt t₀ tx₀ (done ++ [(k, ⟨some o, none⟩)]) (all.foldl rmDescrAndStates T) { R with descrDeleted := R.descrDeleted ++ all } := by
  have Rm := removed_foldl all hc
  have hmem : o ∈ all := hall ▸ List.mem_singleton_self o
  refine ⟨h.updV, h.updIn, ?_, ?_, ?_, ?_, ?_, h.nodupC, h.nodupU, ?_⟩
  · intro d hd
    rw [(Rm.findD hn _).2 (hud d hd)]; exact h.updEq d hd
  · intro x a ha
    rcases h.sGone x a ha with hsome | hdel
    · by_cases hx : x ∈ all.map (·.handle)
      · right; simp only [List.map_append, List.mem_append]; exact .inr hx
      · left; rw [Rm.findS x hx]; exact hsome
    · right; simp only [List.map_append, List.mem_append]; exact .inl hdel
  · intro x c hc'
    rcases h.cGone x c hc' with hsome | hdel
    · by_cases hx : c.dh ∈ all.map (·.handle)
      · right; simp only [List.map_append, List.mem_append]; exact .inr hx
      · left; exact Rm.findC x c hsome hx
    · right; simp only [List.map_append, List.mem_append]; exact .inl hdel
  · intro q hq hd
    simp only [List.mem_append, List.mem_singleton] at hq
    rcases hq with hq | rfl
    · have := h.rootsGone q hq hd
      by_cases hx : q.1 ∈ all.map (·.handle)
      · exact (Rm.findD hn _).1 hx
      · rw [(Rm.findD hn _).2 hx]; exact this
    · exact (Rm.findD hn _).1 (List.mem_map.2 ⟨o, hmem, hk⟩)
  · rw [List.filterMap_append, h.delEq, hall]; rfl
  · intro _ he
    simp only [List.append_eq_nil_iff] at he
    rw [he.2.2] at hmem; cases hmem

theorem RExt.incPar {c : DCommit} {pend : List (Handle × DItem)} {st : Handle → Prop} (he : RExt t₀ tx₀ done c.t c.res)
    (hr : RInv t₀ tx₀ del pend c.t c.res) (h : CInv t₀ tx₀ del pend st c.t c.tx) {q : Handle}
    (hq1 : q ∉ toCreateOf tx₀) :
    RExt t₀ tx₀ done (Sdc.Mdib.incParent c q).t (Sdc.Mdib.incParent c q).res := by
  rcases incParent_cases c q with e | ⟨p, hp, hany, e⟩
  · rw [e]; exact he
  · obtain ⟨hph, hpm⟩ := findD_some hp
    rw [← hph] at hany
    rw [e, updCorresponding_t, updCorresponding_res]
    have hin : p.handle ∈ t₀.descrs.map (·.handle) := by
      cases hf : findD t₀ p.handle with
      | some d0 => obtain ⟨e, hd0⟩ := findD_some hf; exact e ▸ List.mem_map_of_mem hd0
      | none =>
        have := hr.comp p.handle (by rw [hph, hp, ← hph, hf]; exact fun e => nomatch e)
        simp only [List.map_append, List.mem_append, List.mem_map] at this
        rcases this with (⟨x, hx, e⟩ | ⟨x, hx, e⟩) | ⟨x, hx, e⟩
        · exact absurd ((hph ▸ e) ▸ (hr.cre x hx).2) hq1
        · exact absurd e (hany x hx)
        · have := (hr.delr x hx).1; rw [e, hph, hp] at this; cases this
    refine he.repl h.dKeys (d := p) (d' := { p with ver := p.ver + 1 }) (r := { p with ver := p.ver + 1 }) hpm rfl rfl ?_ hin
      rfl hany
    intro d0 hd0 e
    rcases h.seen.dChg p hpm d0 hd0 e with rfl | hlt
    · exact Nat.lt_succ_self _
    · exact Nat.lt_succ_of_lt hlt

theorem subtree_empty {T : Tables} {k : Handle} (h : childrenOf T k = []) (n : Nat) : subtreeBelow T n k = [] := by
  cases n with
  | zero => rfl
  | succ n => simp [subtreeBelow, h]

theorem commitDItems_cons {toDel toCreate toUpdate : List Handle} {c : DCommit} {k : Handle} {it : DItem}
    (rest : List (Handle × DItem)) (h : (commitDItem toDel toCreate toUpdate c it).2 = none) :
    commitDItems toDel toCreate toUpdate c ((k, it) :: rest) =
      commitDItems toDel toCreate toUpdate (commitDItem toDel toCreate toUpdate c it).1 rest := by
  rw [commitDItems]
  generalize commitDItem toDel toCreate toUpdate c it = q at h
  obtain ⟨c1, e⟩ := q
  obtain rfl : e = none := h
  rfl

theorem created_not_del (hi : DTxOK t₀ tx₀) (hs : DStatic t₀ tx₀ del) {q : Handle} (hq : q ∈ toCreateOf tx₀) : q ∉ del := by
  intro hd
  obtain ⟨d, hd', e⟩ := hs.delSub _ hd
  exact created_not_in_t0 hi hq (e ▸ List.mem_map_of_mem hd')

theorem delItem_in_t0 (hi : DTxOK t₀ tx₀) {p : Handle × DItem} (hp : p ∈ tx₀.descr) (hd : isDelItem p = true) :
    p.1 ∈ t₀.descrs.map (·.handle) := by
  have := hi.dOld p hp
  unfold isDelItem at hd
  cases ho : p.2.old with
  | none => rw [ho] at hd; cases hd
  | some o =>
    rw [ho] at this
    obtain ⟨e, hm⟩ := findD_some this.symm
    exact e ▸ List.mem_map_of_mem hm

theorem RInv.not_updated {T : Tables} {R : TxResult} {k : Handle} {o n : Descr} (hi : DTxOK t₀ tx₀)
    (hr : RInv t₀ tx₀ del ((k, ⟨some o, some n⟩) :: pend) T R) (hmem : (k, (⟨some o, some n⟩ : DItem)) ∈ tx₀.descr) :
    ∀ y ∈ R.descrUpdated, y.handle ≠ k := by
  intro y hy e
  rcases (hr.upd y hy).2.2 with ⟨o', n', m1, m2⟩ | hnu
  · rw [e] at m1 m2
    have a := dictGet_of_mem_nodup hi.dKeys m1
    rw [dictGet_of_mem_nodup hi.dKeys hmem] at a
    cases a
    exact m2 (List.mem_cons_self ..)
  · exact hnu (e ▸ mem_toUpdateOf.2 ⟨_, hmem, o, n, rfl, hi.dNew _ hmem n rfl⟩)

section
variable {c : DCommit} {k : Handle}

theorem commitDItem_create (hi : DTxOK t₀ tx₀) (hs : DStatic t₀ tx₀ del) {n : Descr}
    (hmem : (k, (⟨none, some n⟩ : DItem)) ∈ tx₀.descr) (hkeys : (((k, (⟨none, some n⟩ : DItem)) :: pend).map (·.1)).Nodup)
    (h : CInv t₀ tx₀ del ((k, ⟨none, some n⟩) :: pend) (pendUpd ((k, ⟨none, some n⟩) :: pend)) c.t c.tx)
    (hr : RInv t₀ tx₀ del ((k, ⟨none, some n⟩) :: pend) c.t c.res)
    {c' : DCommit} (hc' : (commitDItem del (toCreateOf tx₀) (toUpdateOf tx₀) c ⟨none, some n⟩).1 = c') :
    (commitDItem del (toCreateOf tx₀) (toUpdateOf tx₀) c ⟨none, some n⟩).2 = none ∧
    CInv t₀ tx₀ del pend (pendUpd pend) c'.t c'.tx ∧ RInv t₀ tx₀ del pend c'.t c'.res ∧
    ((∀ p ∈ done, p ∈ tx₀.descr) → RExt t₀ tx₀ done c.t c.res →
      RExt t₀ tx₀ (done ++ [(k, ⟨none, some n⟩)]) c'.t c'.res) := by
  subst hc'
  obtain ⟨hadd, h1⟩ := (h.mono_st (fun x hx => (pendUpd_cons hx).resolve_right (fun e => e.2.1 rfl))).add hi hs hmem hkeys
  have hnh : n.handle = k := hi.dNew _ hmem n rfl
  have hkc : k ∈ toCreateOf tx₀ := mem_toCreateOf.2 ⟨_, hmem, n, rfl, hnh⟩
  have hnd : k ∉ del := created_not_del hi hs hkc
  have hfresh : findD c.t n.handle = none := (addDescr_ok_iff.1 hadd).1
  have hr1 := hr.drop.add hfresh (hnh ▸ hkc) (hnh ▸ hnd)
  -- `n` was not reported before, and no removed descriptor had its handle
  have he1 := fun (hdone : ∀ p ∈ done, p ∈ tx₀.descr) (he : RExt t₀ tx₀ done c.t c.res) =>
    he.add hfresh (fun d hd e => by have := (hr.cre d hd).1; rw [e, hfresh] at this; cases this)
      (fun p hp hd e => created_not_in_t0 hi hkc (hnh ▸ e ▸ delItem_in_t0 hi (hdone p hp) hd))
  have hne : c.res.descrCreated ++ [n] ≠ [] := fun e => List.cons_ne_nil _ _ (List.append_eq_nil_iff.1 e).2
  have hmn : n ∈ c.t.descrs ++ [n] := List.mem_append_right _ (List.mem_singleton_self n)
  -- whether or not the parent was bumped (`c2`), `_update_corresponding_state(n)` finishes the item
  have key : ∀ c2 : DCommit, CInv t₀ tx₀ del pend (fun x => pendUpd pend x ∨ x = k) c2.t c2.tx → n ∈ c2.t.descrs →
      RInv t₀ tx₀ del pend c2.t c2.res → ((∀ p ∈ done, p ∈ tx₀.descr) → RExt t₀ tx₀ done c.t c.res → RExt t₀ tx₀ done c2.t c2.res) →
      c2.res.descrCreated ≠ [] →
      CInv t₀ tx₀ del pend (pendUpd pend) (updCorresponding c2 n).t (updCorresponding c2 n).tx ∧
      RInv t₀ tx₀ del pend (updCorresponding c2 n).t (updCorresponding c2 n).res ∧
      ((∀ p ∈ done, p ∈ tx₀.descr) → RExt t₀ tx₀ done c.t c.res →
        RExt t₀ tx₀ (done ++ [(k, ⟨none, some n⟩)]) (updCorresponding c2 n).t (updCorresponding c2 n).res) := by
    intro c2 h2 hm2 r2 e2 hne2
    refine ⟨CInv.finish (it := ⟨none, some n⟩) h2 hi hmem rfl hm2 hnh rfl hnd, ?_⟩
    rw [updCorresponding_t, updCorresponding_res]
    exact ⟨r2, fun hd he => (e2 hd he).push (fun e => nomatch e)
      (fun e => hne2 (List.append_eq_nil_iff.1 (List.append_eq_nil_iff.1 e).1).1)⟩
  simp only [commitDItem, hadd]
  refine ⟨trivial, ?_⟩
  cases hp : n.parent with
  | none => exact key _ h1 hmn hr1 he1 hne
  | some p =>
    simp only
    by_cases hcond : ((toCreateOf tx₀).contains p || (toUpdateOf tx₀).contains p) = true
    · rw [if_pos hcond]; exact key _ h1 hmn hr1 he1 hne
    · rw [if_neg hcond]
      simp only [Bool.or_eq_true, List.contains_eq_mem, decide_eq_true_eq, not_or] at hcond
      have hpd : p ∉ del := by
        rcases hs.crePar _ hmem n rfl p hp with ⟨m, hm⟩ | ⟨a, _⟩
        · exact absurd (mem_toCreateOf.2 ⟨_, hm, m, rfl, hi.dNew _ hm m rfl⟩) hcond.1
        · exact a
      exact key _ (CInv.maybeInc h1 hi hpd hcond.1 hcond.2)
        (mem_incParent_of_ne hmn (fun e => hcond.1 (mem_toCreateOf.2 ⟨_, hmem, n, rfl, e⟩)))
        (RInv.incPar (c := ⟨_, _, _⟩) hr1 h1.dKeys hcond.1 hpd hcond.2)
        (fun hd he => RExt.incPar (c := ⟨_, _, _⟩) (he1 hd he) hr1 h1 hcond.1) (by rw [incParent_created]; exact hne)

theorem commitDItem_delete (hw : WF t₀) (hi : DTxOK t₀ tx₀) (hs : DStatic t₀ tx₀ del) {o : Descr}
    (hmem : (k, (⟨some o, none⟩ : DItem)) ∈ tx₀.descr)
    (h : CInv t₀ tx₀ del ((k, ⟨some o, none⟩) :: pend) (pendUpd ((k, ⟨some o, none⟩) :: pend)) c.t c.tx)
    (hr : RInv t₀ tx₀ del ((k, ⟨some o, none⟩) :: pend) c.t c.res)
    {c' : DCommit} (hc' : (commitDItem del (toCreateOf tx₀) (toUpdateOf tx₀) c ⟨some o, none⟩).1 = c') :
    (commitDItem del (toCreateOf tx₀) (toUpdateOf tx₀) c ⟨some o, none⟩).2 = none ∧
    CInv t₀ tx₀ del pend (pendUpd pend) c'.t c'.tx ∧ RInv t₀ tx₀ del pend c'.t c'.res ∧
    ((∀ p ∈ done, p ∈ tx₀.descr ∧ p.1 ≠ k) → RExt t₀ tx₀ done c.t c.res →
      (∀ x ∈ t₀.descrs, x.parent = some k → ∃ q ∈ done, isDelItem q = true ∧ q.1 = x.handle) →
      RExt t₀ tx₀ (done ++ [(k, ⟨some o, none⟩)]) c'.t c'.res) := by
  subst hc'
  have hok : some o = findD t₀ k := hi.dOld _ hmem
  obtain ⟨hoh, hot⟩ := findD_some hok.symm
  have hkt : k ∉ toCreateOf tx₀ := fun hc => created_not_in_t0 hi hc (hoh ▸ List.mem_map_of_mem hot)
  have hod : o.handle ∈ del := by rw [hoh]; exact hs.delRoot _ hmem o rfl
  have h0 := (h.mono_st (fun x hx => (pendUpd_cons hx).resolve_right (fun e => e.2.2 rfl))).drop (.inl (fun e => nomatch e)) hi hmem
  simp only [commitDItem]
  by_cases hgone : (findD c.t o.handle).isNone = true
  · -- already gone with a subtree removed earlier: not when every item removes one descriptor
    rw [if_pos hgone]
    have hgone' : findD c.t k = none := by rw [← hoh]; exact Option.isNone_iff_eq_none.1 hgone
    have hin := hr.comp k (by rw [hgone', ← hok]; exact fun e => nomatch e)
    refine ⟨rfl, h0, hr.drop, fun hdone he _ => False.elim ?_⟩
    simp only [List.map_append, List.mem_append, List.mem_map] at hin
    rcases hin with (⟨x, hx, e⟩ | ⟨x, hx, e⟩) | ⟨x, hx, e⟩
    · exact hkt (e ▸ (hr.cre x hx).2)
    · obtain ⟨⟨d', a, _⟩, _⟩ := hr.upd x hx
      rw [e, hgone'] at a; cases a
    · rw [he.delEq] at hx
      obtain ⟨q, hq, hqo⟩ := List.mem_filterMap.1 hx
      have hqold : q.2.old = some x := by
        unfold delOld at hqo; split at hqo
        · exact hqo
        · cases hqo
      have := hi.dOld q (hdone q hq).1
      rw [hqold] at this
      exact (hdone q hq).2 (((findD_some this.symm).1).symm.trans e)
  · rw [if_neg hgone]
    have hD : ∀ x ∈ subtreeBelow c.t (c.t.descrs.length + 1) o.handle ++ [o], x.handle ∈ del := by
      intro x hx
      rcases List.mem_append.1 hx with hx | hx
      · exact h.sub_del _ _ hod x hx
      · rw [List.mem_singleton.1 hx]; exact hod
    generalize hc1 : (⟨(subtreeBelow c.t (c.t.descrs.length + 1) o.handle ++ [o]).foldl rmDescrAndStates c.t, c.tx,
      { c.res with descrDeleted := c.res.descrDeleted ++ (subtreeBelow c.t (c.t.descrs.length + 1) o.handle ++ [o]) }⟩ : DCommit) = c1
    have hr1 : RInv t₀ tx₀ del pend c1.t c1.res := by
      rw [← hc1]; exact hr.drop.rm h.dKeys h.cKeys _ hD (fun _ hq => created_not_del hi hs hq)
    have h1 : CInv t₀ tx₀ del pend (pendUpd pend) c1.t c1.tx := by rw [← hc1]; exact h0.delete hi hs hod
    have he1 : (∀ p ∈ done, p ∈ tx₀.descr ∧ p.1 ≠ k) → RExt t₀ tx₀ done c.t c.res →
        (∀ x ∈ t₀.descrs, x.parent = some k → ∃ q ∈ done, isDelItem q = true ∧ q.1 = x.handle) →
        RExt t₀ tx₀ (done ++ [(k, ⟨some o, none⟩)]) c1.t c1.res := by
      rw [← hc1]
      intro hdone he hflat
      exact he.rmPush h.dKeys h.cKeys (k := k) (o := o) (subtreeBelow c.t (c.t.descrs.length + 1) o.handle ++ [o])
        (by
          -- the subtree below `o` is already gone
          have hch : childrenOf c.t o.handle = [] := by
            apply List.eq_nil_iff_forall_not_mem.2
            intro x hx
            obtain ⟨hxm, hxp⟩ := mem_childrenOf.1 hx
            by_cases hxt : x.handle ∈ t₀.descrs.map (·.handle)
            · obtain ⟨d0, hd0, e0⟩ := List.mem_map.1 hxt
              have hpar := (h.dOld x hxm d0 hd0 e0).1
              obtain ⟨q, hq, hqd, hqk⟩ := hflat d0 hd0 (by rw [hpar, hxp, hoh])
              have := he.rootsGone q hq hqd
              rw [hqk, e0, show findD c.t x.handle = some x from find_of_mem_nodup (fun d : Descr => d.handle) h.dKeys hxm] at this
              cases this
            · -- a created descriptor below a removed one: excluded by the consistency check
              have hnd : x.handle ∉ del := fun hd => by
                obtain ⟨d, hd', e⟩ := hs.delSub _ hd
                exact hxt (e ▸ List.mem_map_of_mem hd')
              exact h.dUp x hxm hnd o.handle hxp hod
          rw [subtree_empty hch]; rfl)
        hoh
        (fun d hd hx => (hr.upd d hd).2.1 (by
          obtain ⟨x, hx', e⟩ := List.mem_map.1 hx
          exact e ▸ hD x hx'))
    cases hp : o.parent with
    | none => exact ⟨rfl, h1, hr1, he1⟩
    | some p =>
      simp only
      by_cases hcond : (del.contains p || (toUpdateOf tx₀).contains p) = true
      · rw [if_pos hcond]; exact ⟨trivial, h1, hr1, he1⟩
      · rw [if_neg hcond]
        simp only [Bool.or_eq_true, List.contains_eq_mem, decide_eq_true_eq, not_or] at hcond
        have hpc : p ∉ toCreateOf tx₀ := by
          intro hc
          obtain ⟨q, hq, e⟩ := hw.parent o hot p hp
          exact created_not_in_t0 hi hc (e ▸ List.mem_map_of_mem hq)
        exact ⟨trivial, CInv.maybeInc h1 hi hcond.1 hpc hcond.2, RInv.incPar (c := c1) hr1 h1.dKeys hpc hcond.1 hcond.2,
          fun hd he hf => RExt.incPar (c := c1) (he1 hd he hf) hr1 h1 hpc⟩

theorem commitDItem_update (hw : WF t₀) (hi : DTxOK t₀ tx₀) (hs : DStatic t₀ tx₀ del) {o n : Descr}
    (hmem : (k, (⟨some o, some n⟩ : DItem)) ∈ tx₀.descr) (hkeys : (((k, (⟨some o, some n⟩ : DItem)) :: pend).map (·.1)).Nodup)
    (h : CInv t₀ tx₀ del ((k, ⟨some o, some n⟩) :: pend) (pendUpd ((k, ⟨some o, some n⟩) :: pend)) c.t c.tx)
    (hr : RInv t₀ tx₀ del ((k, ⟨some o, some n⟩) :: pend) c.t c.res)
    {c' : DCommit} (hc' : (commitDItem del (toCreateOf tx₀) (toUpdateOf tx₀) c ⟨some o, some n⟩).1 = c') :
    (commitDItem del (toCreateOf tx₀) (toUpdateOf tx₀) c ⟨some o, some n⟩).2 = none ∧
    CInv t₀ tx₀ del pend (pendUpd pend) c'.t c'.tx ∧ RInv t₀ tx₀ del pend c'.t c'.res ∧
    (RExt t₀ tx₀ done c.t c.res → n.parent = o.parent ∧ n.mds = o.mds →
      RExt t₀ tx₀ (done ++ [(k, ⟨some o, some n⟩)]) c'.t c'.res) := by
  subst hc'
  have hok : some o = findD t₀ k := hi.dOld _ hmem
  obtain ⟨hoh, hot⟩ := findD_some hok.symm
  have hkt : k ∉ toCreateOf tx₀ := fun hc => created_not_in_t0 hi hc (hoh ▸ List.mem_map_of_mem hot)
  have hnd : k ∉ del := hs.updNotDel _ hmem o n rfl
  have hpres := h.dSurv o hot (by rw [hoh]; exact hnd)
  obtain ⟨x, hx, hxh⟩ := List.mem_map.1 hpres
  have hfx : findD c.t o.handle = some x := by
    have := find_of_mem_nodup (fun d : Descr => d.handle) h.dKeys hx
    rw [show x.handle = o.handle from hxh] at this; exact this
  have hxk : x.handle = k := hxh.trans hoh
  have hnk : n.handle = k := hi.dNew _ hmem n rfl
  have hu := hi.dUpd _ hmem o rfl n rfl
  have hv : ∀ d0 ∈ t₀.descrs, d0.handle = x.handle → d0.ver < n.ver := by
    intro d0 hd0 e
    have : d0 = o := mem_unique hw.dKeys hd0 hot (e.trans hxh)
    subst this; omega
  obtain ⟨ep, ek, em⟩ := h.dOld x hx o hot hxh.symm
  have h1 : CInv t₀ tx₀ del pend (fun y => pendUpd pend y ∨ y = k) (replaceDescr c.t { o with ver := n.ver, body := n.body }) c.tx := by
    refine ((h.drop (.inl (fun e => nomatch e)) hi hmem).replace (d := x) (d' := { o with ver := n.ver, body := n.body })
      hx hxh.symm ep ek em hv
      (fun hnone => absurd (hxh ▸ List.mem_map_of_mem hot) ((find_none_iff (fun d : Descr => d.handle)).1 hnone))).mono_st ?_
    rintro y (hy | hy)
    · exact (pendUpd_cons hy).imp_right (fun e => e.1)
    · exact .inr (hy.trans hxk)
  have hq3 : ∀ y ∈ c.res.descrUpdated, y.handle ≠ x.handle := fun y hy => hxk ▸ hr.not_updated hi hmem y hy
  have hr1 := hr.drop.repl h.dKeys (d := x) (d' := { o with ver := n.ver, body := n.body }) (r := n) hx hxh.symm
    ⟨hnk.trans hxk.symm, rfl, rfl, hu.1.symm⟩ (by rw [hxk]; exact hkt) (by rw [hxk]; exact hnd) hq3
    (.inl ⟨o, n, hxk ▸ hmem, by
      rw [hxk]; intro hm
      exact (List.nodup_cons.1 hkeys).1 (List.mem_map.2 ⟨_, hm, rfl⟩)⟩)
  have he1 := fun (he : RExt t₀ tx₀ done c.t c.res) (hkeep : n.parent = o.parent ∧ n.mds = o.mds) =>
    he.repl h.dKeys (d := x) (d' := { o with ver := n.ver, body := n.body }) (r := n) hx hxh.symm (hnk.trans hxk.symm) hv
      (by rw [hxk, ← hoh]; exact List.mem_map_of_mem hot)
      (by
        -- the table keeps parent and source mds of the old record; the script did not change them
        obtain ⟨ep, em⟩ := hkeep
        cases n; cases o
        simp only at ep em hnk hoh hu ⊢
        simp [ep, em, hnk, hoh, hu.1])
      hq3
  have hn1 : ((replaceDescr c.t { o with ver := n.ver, body := n.body }).descrs.map (·.handle)).Nodup := by
    rw [replaceDescr_handles]; exact h.dKeys
  have hm1 : ({ o with ver := n.ver, body := n.body } : Descr) ∈ (replaceDescr c.t { o with ver := n.ver, body := n.body }).descrs :=
    mem_replaceDescr.2 (.inl ⟨rfl, hpres⟩)
  simp only [commitDItem, hfx]
  refine ⟨trivial, CInv.reindex (CInv.finish (it := ⟨some o, some n⟩) (d := { o with ver := n.ver, body := n.body })
    h1 hi hmem rfl hm1 hoh rfl hnd) (by rw [updCorresponding_t]; exact hm1), ?_⟩
  simp only [updCorresponding_t, updCorresponding_res]
  exact ⟨hr1.congr (fun _ => mem_reindexDescr hn1 hm1) (reindexDescr_nodup hn1 _), fun he hkeep =>
    ((he1 he hkeep).congr (fun _ => mem_reindexDescr hn1 hm1) (reindexDescr_nodup hn1 _)).push (fun e => nomatch e)
      (fun e => List.cons_ne_nil _ _ (List.append_eq_nil_iff.1 (List.append_eq_nil_iff.1 (List.append_eq_nil_iff.1 e).1).2).2)⟩

theorem commitDItem_result (hw : WF t₀) (hi : DTxOK t₀ tx₀) (hs : DStatic t₀ tx₀ del) {it : DItem}
    (hsp : tx₀.descr = done ++ (k, it) :: pend) (h : CInv t₀ tx₀ del ((k, it) :: pend) (pendUpd ((k, it) :: pend)) c.t c.tx)
    (hr : RInv t₀ tx₀ del ((k, it) :: pend) c.t c.res)
    {c' : DCommit} (hc' : (commitDItem del (toCreateOf tx₀) (toUpdateOf tx₀) c it).1 = c') :
    (commitDItem del (toCreateOf tx₀) (toUpdateOf tx₀) c it).2 = none ∧
    CInv t₀ tx₀ del pend (pendUpd pend) c'.t c'.tx ∧ RInv t₀ tx₀ del pend c'.t c'.res ∧
    (KeepsParent tx₀ → DeletesFlatFrom t₀ done ((k, it) :: pend) → RExt t₀ tx₀ done c.t c.res →
      RExt t₀ tx₀ (done ++ [(k, it)]) c'.t c'.res) := by
  have hmem : (k, it) ∈ tx₀.descr := hsp ▸ List.mem_append_right _ (List.mem_cons_self ..)
  have hk := hi.dKeys
  rw [hsp, List.map_append, List.nodup_append] at hk
  have hdone : ∀ p ∈ done, p ∈ tx₀.descr ∧ p.1 ≠ k := fun p hp =>
    ⟨hsp ▸ List.mem_append_left _ hp, hk.2.2 p.1 (List.mem_map_of_mem hp) k (List.mem_cons_self ..)⟩
  obtain ⟨_ | o, _ | n⟩ := it
  · exact absurd rfl (hi.dSome _ hmem rfl)
  · obtain ⟨a, b, c, d⟩ := commitDItem_create (done := done) hi hs hmem hk.2.1 h hr hc'
    exact ⟨a, b, c, fun _ _ he => d (fun p hp => (hdone p hp).1) he⟩
  · obtain ⟨a, b, c, d⟩ := commitDItem_delete (done := done) hw hi hs hmem h hr hc'
    exact ⟨a, b, c, fun _ hflat he => d hdone he (hflat.1 rfl)⟩
  · obtain ⟨a, b, c, d⟩ := commitDItem_update (done := done) hw hi hs hmem hk.2.1 h hr hc'
    exact ⟨a, b, c, fun hkeep _ he => d he (hkeep _ hmem o rfl n rfl)⟩

end

theorem commitDItems_result (hw : WF t₀) (hi : DTxOK t₀ tx₀) (hs : DStatic t₀ tx₀ del) :
    ∀ (pend done : List (Handle × DItem)) (c : DCommit), tx₀.descr = done ++ pend →
      CInv t₀ tx₀ del pend (pendUpd pend) c.t c.tx → RInv t₀ tx₀ del pend c.t c.res →
      (commitDItems del (toCreateOf tx₀) (toUpdateOf tx₀) c pend).2 = none ∧
      CInv t₀ tx₀ del [] (pendUpd []) (commitDItems del (toCreateOf tx₀) (toUpdateOf tx₀) c pend).1.t
        (commitDItems del (toCreateOf tx₀) (toUpdateOf tx₀) c pend).1.tx ∧
      RInv t₀ tx₀ del [] (commitDItems del (toCreateOf tx₀) (toUpdateOf tx₀) c pend).1.t
        (commitDItems del (toCreateOf tx₀) (toUpdateOf tx₀) c pend).1.res ∧
      (KeepsParent tx₀ → DeletesFlatFrom t₀ done pend → RExt t₀ tx₀ done c.t c.res →
        RExt t₀ tx₀ tx₀.descr (commitDItems del (toCreateOf tx₀) (toUpdateOf tx₀) c pend).1.t
          (commitDItems del (toCreateOf tx₀) (toUpdateOf tx₀) c pend).1.res) := by
  intro pend
  induction pend with
  | nil => intro done c hsp h hr; exact ⟨rfl, h, hr, fun _ _ he => by rw [hsp, List.append_nil]; exact he⟩
  | cons p rest ih =>
    intro done c hsp h hr
    obtain ⟨k, it⟩ := p
    obtain ⟨e1, h1, r1, x1⟩ := commitDItem_result (done := done) hw hi hs hsp h hr rfl
    rw [commitDItems_cons rest e1]
    obtain ⟨e2, h2, r2, x2⟩ := ih (done ++ [(k, it)]) _ (by rw [hsp, List.append_assoc]; rfl) h1 r1
    exact ⟨e2, h2, r2, fun hkeep hfl he => x2 hkeep hfl.2 (x1 hkeep hfl he)⟩

end Sdc.Mdib
