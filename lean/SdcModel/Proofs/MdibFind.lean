import SdcModel.Mdib
import SdcModel.Proofs.KeyedList
/-!
# Saved-version lookups, insertion ordered dicts and scripts of the provider model

The MDIB tables, the saved-version lookups and the dicts of the transactions are all lists whose entries carry a handle:
instances of `Proofs/KeyedList.lean`. Here: what `savedSet` / `dictSet` / `dictDel` do to the lookups, the dicts a
sequence of assignments can reach (`DictReach`), and invariants along `runCalls`.
-/
namespace Sdc.Mdib

/-! ## order on `Option Nat` (core: `none ≤ x`, `some a ≤ some b ↔ a ≤ b`) -/

theorem optLe_refl (a : Option Nat) : a ≤ a := by
  cases a with
  | none => exact Option.none_le
  | some a => exact Option.some_le_some.2 (Nat.le_refl a)

theorem optLe_trans {a b c : Option Nat} (h1 : a ≤ b) (h2 : b ≤ c) : a ≤ c := by
  cases a with
  | none => exact Option.none_le
  | some a =>
    cases b with
    | none => cases h1
    | some b =>
      cases c with
      | none => cases h2
      | some c => exact Option.some_le_some.2 (Nat.le_trans (Option.some_le_some.1 h1) (Option.some_le_some.1 h2))

theorem forall_mem_some {α : Type} {x : α} {P : α → Prop} : (∀ n ∈ some x, P n) ↔ P x :=
  ⟨fun h => h x rfl, fun h n hn => by cases hn; exact h⟩

/-! ## `find?` by key: the facts of `Proofs/KeyedList.lean`, read with `Handle` keys -/

export Sdc.Keyed (find_cons find_filter_ne find_filter_self find_none_iff find_some_key find_isSome_iff find_of_mem_nodup
  nodup_filter_key nodup_append_single find_append_single nodup_replace)

theorem savedGet_savedSet_self (l : List (Handle × Nat)) (h : Handle) (v : Nat) : savedGet (savedSet l h v) h = some v := by
  rw [savedGet, savedSet, find_cons (fun p : Handle × Nat => p.1), if_pos rfl]; rfl

theorem savedGet_savedSet_ne (l : List (Handle × Nat)) {h h' : Handle} (v : Nat) (hne : h' ≠ h) :
    savedGet (savedSet l h v) h' = savedGet l h' := by
  rw [savedGet, savedSet, find_cons (fun p : Handle × Nat => p.1), if_neg (Ne.symm hne),
    find_filter_ne (fun p : Handle × Nat => p.1) l hne]; rfl

section dict
variable {α : Type}

theorem dictGet_cons (h0 h : Handle) (v : α) (l : List (Handle × α)) :
    dictGet ((h0, v) :: l) h = if h0 = h then some v else dictGet l h := by
  rw [dictGet, find_cons (fun p : Handle × α => p.1)]
  by_cases e : h0 = h
  · rw [if_pos e, if_pos e]; rfl
  · rw [if_neg e, if_neg e]; rfl

theorem dictGet_some_mem {l : List (Handle × α)} {h : Handle} {v : α} (hg : dictGet l h = some v) : (h, v) ∈ l := by
  obtain ⟨p, hf, rfl⟩ := Option.map_eq_some_iff.1 hg
  obtain ⟨rfl, hm⟩ := find_some_key (fun p : Handle × α => p.1) hf
  exact hm

theorem dictGet_isSome_iff {l : List (Handle × α)} {h : Handle} : (dictGet l h).isSome = true ↔ h ∈ l.map (·.1) := by
  unfold dictGet
  rw [Option.isSome_map]
  exact find_isSome_iff (fun p : Handle × α => p.1)

theorem dictGet_none_iff {l : List (Handle × α)} {h : Handle} : dictGet l h = none ↔ h ∉ l.map (·.1) := by
  unfold dictGet
  rw [Option.map_eq_none_iff]
  exact find_none_iff (fun p : Handle × α => p.1)

theorem dictGet_of_mem_nodup {l : List (Handle × α)} (hn : (l.map (·.1)).Nodup) {h : Handle} {v : α} (hm : (h, v) ∈ l) :
    dictGet l h = some v := by
  rw [dictGet, find_of_mem_nodup (fun p : Handle × α => p.1) hn hm]; rfl

theorem any_key_iff {l : List (Handle × α)} {h : Handle} : l.any (fun p => p.1 == h) = true ↔ h ∈ l.map (·.1) := by
  rw [List.any_eq_true, List.mem_map]
  exact ⟨fun ⟨p, hp, e⟩ => ⟨p, hp, by simpa using e⟩, fun ⟨p, hp, e⟩ => ⟨p, hp, by simpa using e⟩⟩

theorem dictSet_of_mem {l : List (Handle × α)} {h : Handle} (hm : h ∈ l.map (·.1)) (v : α) :
    dictSet l h v = l.map (fun p => if p.1 == h then (h, v) else p) := by
  rw [dictSet, if_pos (any_key_iff.2 hm)]

theorem dictSet_of_not_mem {l : List (Handle × α)} {h : Handle} (hm : h ∉ l.map (·.1)) (v : α) :
    dictSet l h v = l ++ [(h, v)] := by
  rw [dictSet, if_neg (fun e => hm (any_key_iff.1 e))]

theorem dictSet_keys_of_mem {l : List (Handle × α)} {h : Handle} (hm : h ∈ l.map (·.1)) (v : α) :
    (dictSet l h v).map (·.1) = l.map (·.1) := by
  rw [dictSet_of_mem hm]; exact Keyed.map_key_replace (fun p : Handle × α => p.1) l (h, v)

theorem dictSet_keys_nodup {l : List (Handle × α)} (hn : (l.map (·.1)).Nodup) (h : Handle) (v : α) :
    ((dictSet l h v).map (·.1)).Nodup := by
  by_cases hm : h ∈ l.map (·.1)
  · rw [dictSet_keys_of_mem hm]; exact hn
  · rw [dictSet_of_not_mem hm]; exact nodup_append_single (fun p : Handle × α => p.1) hn hm

theorem mem_dictSet_iff {l : List (Handle × α)} {h : Handle} {v : α} {p : Handle × α} :
    p ∈ dictSet l h v ↔ p = (h, v) ∨ (p.1 ≠ h ∧ p ∈ l) := by
  by_cases hm : h ∈ l.map (·.1)
  · rw [dictSet_of_mem hm, List.mem_map]
    constructor
    · rintro ⟨q, hq, rfl⟩
      by_cases e : q.1 = h
      · rw [if_pos (by simpa using e)]; exact .inl rfl
      · rw [if_neg (by simpa using e)]; exact .inr ⟨e, hq⟩
    · rintro (rfl | ⟨e, hp⟩)
      · obtain ⟨q, hq, e⟩ := List.mem_map.1 hm
        exact ⟨q, hq, by rw [if_pos (by simpa using e)]⟩
      · exact ⟨p, hp, by rw [if_neg (by simpa using e)]⟩
  · rw [dictSet_of_not_mem hm, List.mem_append, List.mem_singleton]
    constructor
    · rintro (hp | hp)
      · exact .inr ⟨fun e => hm (e ▸ List.mem_map_of_mem hp), hp⟩
      · exact .inl hp
    · rintro (hp | ⟨_, hp⟩)
      · exact .inr hp
      · exact .inl hp

theorem mem_dictSet {l : List (Handle × α)} {h : Handle} {v : α} {p : Handle × α} (hp : p ∈ dictSet l h v) :
    p = (h, v) ∨ (p.1 ≠ h ∧ p ∈ l) := mem_dictSet_iff.1 hp

theorem mem_dictSet_self (l : List (Handle × α)) (h : Handle) (v : α) : (h, v) ∈ dictSet l h v :=
  mem_dictSet_iff.2 (.inl rfl)

theorem mem_dictSet_of_ne {l : List (Handle × α)} {h : Handle} (v : α) {p : Handle × α} (hp : p ∈ l) (hne : p.1 ≠ h) :
    p ∈ dictSet l h v := mem_dictSet_iff.2 (.inr ⟨hne, hp⟩)

theorem dictGet_dictSet_self (l : List (Handle × α)) (hn : (l.map (·.1)).Nodup) (h : Handle) (v : α) :
    dictGet (dictSet l h v) h = some v :=
  dictGet_of_mem_nodup (dictSet_keys_nodup hn h v) (mem_dictSet_self l h v)

theorem forall_dictSet {Q : Handle × α → Prop} {l : List (Handle × α)} (hl : ∀ p ∈ l, Q p) {h : Handle} {v : α}
    (hv : Q (h, v)) : ∀ p ∈ dictSet l h v, Q p := by
  intro p hp
  rcases mem_dictSet hp with rfl | ⟨_, hp⟩
  · exact hv
  · exact hl p hp

/-- `l'` comes from `l` by deletions and by assignments `dictSet · h v` with `R l h v`, `l` the dict at that moment -/
inductive DictReach (R : List (Handle × α) → Handle → α → Prop) : List (Handle × α) → List (Handle × α) → Prop
  | refl (l) : DictReach R l l
  | set {l l' h v} : R l h v → DictReach R (dictSet l h v) l' → DictReach R l l'
  | del {l l'} (h) : DictReach R (dictDel l h) l' → DictReach R l l'

theorem DictReach.keys_nodup {R : List (Handle × α) → Handle → α → Prop} {l l' : List (Handle × α)}
    (hr : DictReach R l l') (hn : (l.map (·.1)).Nodup) : (l'.map (·.1)).Nodup := by
  induction hr with
  | refl => exact hn
  | set _ _ ih => exact ih (dictSet_keys_nodup hn _ _)
  | del h _ ih => exact ih (nodup_filter_key _ hn _)

theorem DictReach.forall {R : List (Handle × α) → Handle → α → Prop} {Q : Handle × α → Prop} {l l' : List (Handle × α)}
    (hr : DictReach R l l') (hQ : ∀ l h v, (∀ p ∈ l, Q p) → R l h v → Q (h, v)) (hl : ∀ p ∈ l, Q p) : ∀ p ∈ l', Q p := by
  induction hr with
  | refl => exact hl
  | set hv _ ih => exact ih (forall_dictSet hl (hQ _ _ _ hl hv))
  | del h _ ih => exact ih (fun p hp => hl p (List.mem_filter.1 hp).1)

end dict

theorem foldl_inv {α β : Type} {f : β → α → β} {P : β → Prop} {l : List α} (hf : ∀ b, ∀ a ∈ l, P b → P (f b a)) {b : β}
    (hb : P b) : P (l.foldl f b) := by
  induction l generalizing b with
  | nil => exact hb
  | cons a l ih => exact ih (fun b x hx => hf b x (List.mem_cons_of_mem _ hx)) (hf b a (List.mem_cons_self ..) hb)

theorem runCalls_inv_of {σ κ : Type} {f : σ → κ → Except Err σ} (P : σ → Prop) (G : κ → Prop)
    (hf : ∀ s c s', G c → P s → f s c = .ok s' → P s') (ce : Bool) :
    ∀ (cs : List κ) (s s' : σ), (∀ c ∈ cs, G c) → P s → runCalls f ce s cs = .ok s' → P s' := by
  intro cs
  induction cs with
  | nil => intro s s' _ hp h; cases h; exact hp
  | cons c cs ih =>
    intro s s' hg hp h
    have hg' : ∀ c ∈ cs, G c := fun c hc => hg c (List.mem_cons_of_mem _ hc)
    rw [runCalls] at h
    cases hs1 : f s c with
    | ok s1 => rw [hs1] at h; exact ih s1 s' hg' (hf s c s1 (hg c (List.mem_cons_self ..)) hp hs1) h
    | error e =>
      rw [hs1] at h
      cases ce with
      | true => exact ih s s' hg' hp h
      | false => cases h

theorem runCalls_inv {σ κ : Type} {f : σ → κ → Except Err σ} (P : σ → Prop)
    (hf : ∀ s c s', P s → f s c = .ok s' → P s') (ce : Bool) (cs : List κ) (s s' : σ) (hp : P s)
    (h : runCalls f ce s cs = .ok s') : P s' :=
  runCalls_inv_of P (fun _ => True) (fun s c s' _ => hf s c s') ce cs s s' (fun _ _ => trivial) hp h

end Sdc.Mdib
