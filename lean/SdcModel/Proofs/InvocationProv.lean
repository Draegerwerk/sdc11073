import SdcModel.Invocation
/-!
Provider side of C09: every transaction id is in exactly one place (in flight / queued in one SCO / done), and the
messages about it are determined by where it is (`Status`). An event about another transaction leaves the places and
the messages of this one alone (`step_frame`); the events about the transaction itself move it on (`status_step`). Before
its request arrives, an id occurs nowhere (`Absent`), by the same frame lemma.
-/
namespace Sdc.Invocation

/-- the entries of an id-keyed list that carry the id `tx` -/
def occ {α : Type} (tx : Nat) (l : List (Nat × α)) : List (Nat × α) := l.filter (fun e => e.1 = tx)

@[simp] theorem occ_nil {α : Type} (tx : Nat) : occ tx ([] : List (Nat × α)) = [] := rfl

theorem occ_append {α : Type} (tx : Nat) (a b : List (Nat × α)) : occ tx (a ++ b) = occ tx a ++ occ tx b :=
  List.filter_append ..

theorem occ_cons_ne {α : Type} (tx : Nat) (e : Nat × α) (l : List (Nat × α)) (h : e.1 ≠ tx) :
    occ tx (e :: l) = occ tx l :=
  List.filter_cons_of_neg (by simpa using h)

theorem occ_cons_eq {α : Type} (tx : Nat) (v : α) (l : List (Nat × α)) : occ tx ((tx, v) :: l) = (tx, v) :: occ tx l :=
  List.filter_cons_of_pos (by simp)

theorem occ_snoc_ne {α : Type} (tx t : Nat) (v : α) (l : List (Nat × α)) (h : t ≠ tx) :
    occ tx (l ++ [(t, v)]) = occ tx l := by
  rw [occ_append, occ_cons_ne tx (t, v) [] h, occ_nil, List.append_nil]

theorem mem_occ {α : Type} {tx : Nat} {v : α} {l : List (Nat × α)} (h : (tx, v) ∈ l) : (tx, v) ∈ occ tx l :=
  List.mem_filter.mpr ⟨h, by simp⟩

theorem occ_eraseIdx {α : Type} (tx : Nat) (l : List (Nat × α)) (k : Nat) (e : Nat × α) (hk : l[k]? = some e) :
    ∃ a b, occ tx l = a ++ occ tx [e] ++ b ∧ occ tx (l.eraseIdx k) = a ++ b := by
  obtain ⟨hlt, rfl⟩ := List.getElem?_eq_some_iff.mp hk
  refine ⟨occ tx (l.take k), occ tx (l.drop (k + 1)), ?_, ?_⟩
  · conv => lhs; rw [← List.take_append_drop k l, ← List.getElem_cons_drop hlt]
    rw [occ_append, ← List.singleton_append, occ_append, List.append_assoc]
  · rw [List.eraseIdx_eq_take_drop_succ, occ_append]

theorem msgsOf_append (tx : Nat) (a b : List Msg) : msgsOf tx (a ++ b) = msgsOf tx a ++ msgsOf tx b :=
  List.filter_append ..

theorem msgsOf_other (tx t : Nat) (h : t ≠ tx) (l : List Msg) (hl : ∀ m ∈ l, m.info.tx = t) : msgsOf tx l = [] :=
  List.filter_eq_nil_iff.mpr (fun m hm => by simpa [hl m hm] using h)

theorem msgsOf_self (tx : Nat) (l : List Msg) (hl : ∀ m ∈ l, m.info.tx = tx) : msgsOf tx l = l :=
  List.filter_eq_self.mpr (fun m hm => by simpa using hl m hm)

theorem run_append (p : Prov) (a b : List Ev) :
    run p (a ++ b) = ((run (run p a).1 b).1, (run p a).2 ++ (run (run p a).1 b).2) := by
  induction a generalizing p with
  | nil => rfl
  | cons e es ih => simp only [List.cons_append, run, ih, List.append_assoc]

@[simp] theorem finalInfo_tx (tx : Nat) (o : Outcome) : (finalInfo tx o).tx = tx := by
  cases o <;> rfl

theorem all_tx_one {t : Nat} {a : Msg} (ha : a.info.tx = t) : ∀ m ∈ [a], m.info.tx = t :=
  fun _ hm => List.mem_singleton.mp hm ▸ ha

theorem all_tx_cons {t : Nat} {a : Msg} {l : List Msg} (ha : a.info.tx = t) (hl : ∀ m ∈ l, m.info.tx = t) :
    ∀ m ∈ a :: l, m.info.tx = t :=
  fun m hm => (List.mem_cons.mp hm).elim (fun h => h ▸ ha) (hl m)

theorem setQ_same (f : Nat → List (Nat × Outcome)) (s : Nat) (q : List (Nat × Outcome)) : setQ f s q s = q :=
  if_pos rfl

theorem setQ_other (f : Nat → List (Nat × Outcome)) (s s' : Nat) (q : List (Nat × Outcome)) (h : s' ≠ s) :
    setQ f s q s' = f s' :=
  if_neg h

/-- complete message lists of a transaction -/
def Complete (r : Req) (tx : Nat) (m : List Msg) : Prop :=
  (r.sco = none ∧ m = [.resp ⟨tx, .fail, true⟩]) ∨
  (r.sco ≠ none ∧ r.direct = true ∧
      m = [.report (finalInfo tx r.outcome), .resp ⟨tx, (finalInfo tx r.outcome).st, false⟩]) ∨
  (r.sco ≠ none ∧ r.direct = false ∧
      m = [.resp ⟨tx, .wait, false⟩, .report ⟨tx, .wait, false⟩, .report ⟨tx, .start, false⟩,
           .report (finalInfo tx r.outcome)]) ∨
  (r.sco ≠ none ∧ r.direct = false ∧ m = [.report ⟨tx, .fail, true⟩, .resp ⟨tx, .fail, false⟩])

/-- where transaction `tx` (created for request `r`) is, and what has been said about it (`m`) -/
inductive Status (p : Prov) (tx : Nat) (r : Req) (m : List Msg) : Prop
  | inflight : occ tx p.inflight = [(tx, r)] → (∀ s, occ tx (p.queues s) = []) → m = [] → Status p tx r m
  | queued (s : Nat) : r.sco = some s → r.direct = false → occ tx p.inflight = [] →
      occ tx (p.queues s) = [(tx, r.outcome)] → (∀ s', s' ≠ s → occ tx (p.queues s') = []) →
      m = [.resp ⟨tx, .wait, false⟩] → Status p tx r m
  | done : occ tx p.inflight = [] → (∀ s, occ tx (p.queues s) = []) → Complete r tx m → Status p tx r m

theorem status_congr {p p' : Prov} {tx : Nat} {r : Req} {m : List Msg} (hi : occ tx p'.inflight = occ tx p.inflight)
    (hq : ∀ s, occ tx (p'.queues s) = occ tx (p.queues s)) (h : Status p tx r m) : Status p' tx r m := by
  cases h with
  | inflight h1 h2 h3 => exact .inflight (hi ▸ h1) (fun s => hq s ▸ h2 s) h3
  | queued s a b h1 h2 h3 h4 => exact .queued s a b (hi ▸ h1) (hq s ▸ h2) (fun s' h => hq s' ▸ h3 s' h) h4
  | done h1 h2 h3 => exact .done (hi ▸ h1) (fun s => hq s ▸ h2 s) h3

section
variable {p : Prov} {t s : Nat} {r : Req}

theorem dispatch_unknown (h : r.sco = none) : dispatch p t r = (p, [.resp ⟨t, .fail, true⟩]) := by
  simp only [dispatch, h]

theorem dispatch_direct (h : r.sco = some s) (hd : r.direct = true) :
    dispatch p t r = ({ p with mdib := p.mdib + 1 },
      [.report (finalInfo t r.outcome), .resp ⟨t, (finalInfo t r.outcome).st, false⟩]) := by
  simp only [dispatch, h, hd, if_true]

theorem dispatch_queued (h : r.sco = some s) (hd : r.direct = false) (hc : (p.queues s).length < p.cap) :
    dispatch p t r = ({ p with queues := setQ p.queues s (p.queues s ++ [(t, r.outcome)]) }, [.resp ⟨t, .wait, false⟩]) := by
  simp only [dispatch, h, hd, hc, Bool.false_eq_true, if_false, if_true]

theorem dispatch_full (h : r.sco = some s) (hd : r.direct = false) (hc : ¬(p.queues s).length < p.cap) :
    dispatch p t r = (p, [.report ⟨t, .fail, true⟩, .resp ⟨t, .fail, false⟩]) := by
  simp only [dispatch, h, hd, hc, Bool.false_eq_true, if_false]

end

theorem dispatch_frame (p : Prov) (t : Nat) (r : Req) :
    (dispatch p t r).1.counter = p.counter ∧ (dispatch p t r).1.inflight = p.inflight ∧
      (∀ tx, t ≠ tx → ∀ s, occ tx ((dispatch p t r).1.queues s) = occ tx (p.queues s)) ∧
      ∀ m ∈ (dispatch p t r).2, m.info.tx = t := by
  cases h : r.sco with
  | none => rw [dispatch_unknown h]; exact ⟨rfl, rfl, fun _ _ _ => rfl, all_tx_one rfl⟩
  | some s0 =>
    cases hd : r.direct with
    | true =>
      rw [dispatch_direct h hd]
      exact ⟨rfl, rfl, fun _ _ _ => rfl, all_tx_cons (finalInfo_tx ..) (all_tx_one rfl)⟩
    | false =>
      by_cases hc : (p.queues s0).length < p.cap
      · rw [dispatch_queued h hd hc]
        refine ⟨rfl, rfl, fun tx ht s => ?_, all_tx_one rfl⟩
        show occ tx (setQ p.queues s0 _ s) = _
        by_cases hs : s = s0
        · subst hs; rw [setQ_same, occ_snoc_ne _ _ _ _ ht]
        · rw [setQ_other _ _ _ _ hs]
      · rw [dispatch_full h hd hc]; exact ⟨rfl, rfl, fun _ _ _ => rfl, all_tx_cons rfl (all_tx_one rfl)⟩

theorem step_handle_none {p : Prov} {k : Nat} (hk : p.inflight[k]? = none) : step p (.handle k) = (p, []) := by
  simp only [step, hk]

theorem step_handle_some {p : Prov} {k t : Nat} {r : Req} (hk : p.inflight[k]? = some (t, r)) :
    step p (.handle k) = dispatch { p with inflight := p.inflight.eraseIdx k } t r := by
  simp only [step, hk]

theorem step_tick_nil {p : Prov} {s : Nat} (hq : p.queues s = []) : step p (.tick s) = (p, []) := by
  simp only [step, hq]

theorem step_tick_cons {p : Prov} {s t : Nat} {o : Outcome} {rest : List (Nat × Outcome)}
    (hq : p.queues s = (t, o) :: rest) :
    step p (.tick s) = ({ p with queues := setQ p.queues s rest, mdib := p.mdib + 1 },
      [.report ⟨t, .wait, false⟩, .report ⟨t, .start, false⟩, .report (finalInfo t o)]) := by
  simp only [step, hq]

/-- the transaction an event is about -/
def subject (p : Prov) : Ev → Option Nat
  | .recv _ => some (p.counter + 1)
  | .handle k => p.inflight[k]?.map (·.1)
  | .tick s => (p.queues s).head?.map (·.1)

theorem tick_msgs_tx (t : Nat) (o : Outcome) :
    ∀ m ∈ [Msg.report ⟨t, .wait, false⟩, .report ⟨t, .start, false⟩, .report (finalInfo t o)], m.info.tx = t :=
  all_tx_cons rfl (all_tx_cons rfl (all_tx_one (finalInfo_tx ..)))

theorem subject_eq_some {p : Prov} {e : Ev} {tx : Nat} (h : subject p e = some tx) :
    (∃ r, e = .recv r ∧ p.counter + 1 = tx) ∨ (∃ k r, e = .handle k ∧ p.inflight[k]? = some (tx, r)) ∨
      ∃ s o rest, e = .tick s ∧ p.queues s = (tx, o) :: rest := by
  cases e with
  | recv r => exact .inl ⟨r, rfl, Option.some.inj h⟩
  | handle k =>
    cases hk : p.inflight[k]? with
    | none => rw [subject, hk] at h; cases h
    | some e => rw [subject, hk] at h; cases h; exact .inr (.inl ⟨k, e.2, rfl, hk⟩)
  | tick s =>
    cases hq : p.queues s with
    | nil => rw [subject, hq] at h; cases h
    | cons hd rest => rw [subject, hq] at h; cases h; exact .inr (.inr ⟨s, hd.2, rest, rfl, hq⟩)

theorem step_frame (p : Prov) (e : Ev) (tx : Nat) (hne : subject p e ≠ some tx) :
    occ tx (step p e).1.inflight = occ tx p.inflight ∧ (∀ s, occ tx ((step p e).1.queues s) = occ tx (p.queues s)) ∧
      msgsOf tx (step p e).2 = [] := by
  cases e with
  | recv r => exact ⟨occ_snoc_ne _ _ _ _ (fun h => hne (congrArg some h)), fun _ => rfl, rfl⟩
  | handle k =>
    cases hk : p.inflight[k]? with
    | none => rw [step_handle_none hk]; exact ⟨rfl, fun _ => rfl, rfl⟩
    | some e =>
      obtain ⟨t, r⟩ := e
      have ht : t ≠ tx := fun h => hne (by rw [subject, hk, h]; rfl)
      rw [step_handle_some hk]
      obtain ⟨_, hinf, hq, hm⟩ := dispatch_frame { p with inflight := p.inflight.eraseIdx k } t r
      obtain ⟨a, b, h1, h2⟩ := occ_eraseIdx tx p.inflight k (t, r) hk
      refine ⟨?_, hq tx ht, msgsOf_other tx t ht _ hm⟩
      rw [hinf, h2, h1, occ_cons_ne tx (t, r) [] ht, occ_nil, List.append_nil]
  | tick s =>
    cases hq : p.queues s with
    | nil => rw [step_tick_nil hq]; exact ⟨rfl, fun _ => rfl, rfl⟩
    | cons hd rest =>
      obtain ⟨t, o⟩ := hd
      have ht : t ≠ tx := fun h => hne (by rw [subject, hq, h]; rfl)
      rw [step_tick_cons hq]
      refine ⟨rfl, fun s' => ?_, msgsOf_other tx t ht _ (tick_msgs_tx t o)⟩
      show occ tx (setQ p.queues s rest s') = _
      by_cases hs' : s' = s
      · subst hs'; rw [setQ_same, hq, occ_cons_ne tx (t, o) rest ht]
      · rw [setQ_other _ _ _ _ hs']

theorem counter_handle (p : Prov) (k : Nat) : (step p (.handle k)).1.counter = p.counter := by
  cases hk : p.inflight[k]? with
  | none => rw [step_handle_none hk]
  | some e => rw [step_handle_some hk, (dispatch_frame _ _ _).1]

theorem counter_tick (p : Prov) (s : Nat) : (step p (.tick s)).1.counter = p.counter := by
  cases hq : p.queues s with
  | nil => rw [step_tick_nil hq]
  | cons hd rest => rw [step_tick_cons hq]

theorem counter_le_step (p : Prov) (e : Ev) : p.counter ≤ (step p e).1.counter := by
  cases e with
  | recv r => exact Nat.le_succ _
  | handle k => exact Nat.le_of_eq (counter_handle p k).symm
  | tick s => exact Nat.le_of_eq (counter_tick p s).symm

theorem dispatch_self (p : Prov) (tx : Nat) (r : Req)
    (hi : occ tx p.inflight = []) (hq : ∀ s, occ tx (p.queues s) = []) :
    Status (dispatch p tx r).1 tx r (dispatch p tx r).2 := by
  cases h : r.sco with
  | none => rw [dispatch_unknown h]; exact .done hi hq (.inl ⟨h, rfl⟩)
  | some s0 =>
    have hne : r.sco ≠ none := fun h' => by rw [h'] at h; cases h
    cases hd : r.direct with
    | true => rw [dispatch_direct h hd]; exact .done hi hq (.inr (.inl ⟨hne, hd, rfl⟩))
    | false =>
      by_cases hc : (p.queues s0).length < p.cap
      · rw [dispatch_queued h hd hc]
        refine .queued s0 h hd hi ?_ (fun s' hs' => ?_) rfl
        · show occ tx (setQ p.queues s0 _ s0) = _
          rw [setQ_same, occ_append, hq s0, occ_cons_eq, occ_nil, List.nil_append]
        · show occ tx (setQ p.queues s0 _ s') = _
          rw [setQ_other _ _ _ _ hs']; exact hq s'
      · rw [dispatch_full h hd hc]; exact .done hi hq (.inr (.inr (.inr ⟨hne, hd, rfl⟩)))

theorem status_step (p : Prov) (tx : Nat) (r : Req) (m : List Msg) (e : Ev) (hs : Status p tx r m)
    (hb : tx ≤ p.counter) : Status (step p e).1 tx r (m ++ msgsOf tx (step p e).2) := by
  by_cases he : subject p e = some tx
  case neg =>
    obtain ⟨h1, h2, h3⟩ := step_frame p e tx he
    rw [h3, List.append_nil]
    exact status_congr h1 h2 hs
  rcases subject_eq_some he with ⟨r', rfl, h⟩ | ⟨k, r', rfl, hk⟩ | ⟨s, o, rest, rfl, hq⟩
  · exact absurd h (by omega)
  · rw [step_handle_some hk]
    have hin := mem_occ (List.mem_of_getElem? hk)
    cases hs with
    | queued s a b h1 h2 h3 h4 => rw [h1] at hin; cases hin
    | done h1 h2 h3 => rw [h1] at hin; cases hin
    | inflight h1 h2 h3 =>
      -- the entry taken out is the only one for `tx`
      obtain ⟨a, b, e1, e2⟩ := occ_eraseIdx tx p.inflight k (tx, r') hk
      rw [h1, occ_cons_eq, occ_nil] at e1
      cases a with
      | cons x a' => cases a' <;> cases e1
      | nil =>
        obtain ⟨rfl, rfl⟩ : r = r' ∧ b = [] := by cases e1; exact ⟨rfl, rfl⟩
        rw [h3, List.nil_append, msgsOf_self _ _ (dispatch_frame _ _ _).2.2.2]
        exact dispatch_self { p with inflight := p.inflight.eraseIdx k } tx r e2 h2
  · rw [step_tick_cons hq]
    have hin : (tx, o) ∈ occ tx (p.queues s) := mem_occ (hq ▸ List.mem_cons_self)
    cases hs with
    | inflight h1 h2 h3 => rw [h2 s] at hin; cases hin
    | done h1 h2 h3 => rw [h2 s] at hin; cases hin
    | queued s0 a b h1 h2 h3 h4 =>
      obtain rfl : s = s0 := Decidable.byContradiction fun hne => by rw [h3 s hne] at hin; cases hin
      rw [hq, occ_cons_eq] at h2
      obtain ⟨ho, hrest⟩ := List.cons.inj h2
      obtain rfl : o = r.outcome := (Prod.mk.inj ho).2
      rw [h4, msgsOf_self _ _ (tick_msgs_tx tx r.outcome)]
      refine .done h1 (fun s' => ?_) (.inr (.inr (.inl ⟨(fun h => by rw [h] at a; cases a), b, rfl⟩)))
      show occ tx (setQ p.queues s rest s') = _
      by_cases hs' : s' = s
      · subst hs'; rw [setQ_same]; exact hrest
      · rw [setQ_other _ _ _ _ hs']; exact h3 s' hs'

theorem run_invariant (I : Prov → List Msg → Prop)
    (hstep : ∀ p log e, I p log → I (step p e).1 (log ++ (step p e).2)) (evs : List Ev) (p : Prov) (log : List Msg)
    (h : I p log) : I (run p evs).1 (log ++ (run p evs).2) := by
  induction evs generalizing p log with
  | nil => rw [show (run p []).2 = [] from rfl, List.append_nil]; exact h
  | cons e es ih =>
    have := ih (step p e).1 (log ++ (step p e).2) (hstep p log e h)
    rw [List.append_assoc] at this
    exact this

/-! ### before the request: an id above the counter occurs nowhere -/

def Absent (p : Prov) (log : List Msg) : Prop :=
  ∀ tx, p.counter < tx → occ tx p.inflight = [] ∧ (∀ s, occ tx (p.queues s) = []) ∧ msgsOf tx log = []

theorem absent_step (p : Prov) (log : List Msg) (e : Ev) (h : Absent p log) :
    Absent (step p e).1 (log ++ (step p e).2) := by
  intro tx htx
  obtain ⟨a, b, c⟩ := h tx (Nat.lt_of_le_of_lt (counter_le_step p e) htx)
  -- the event is about the next id, or about one that is in the state
  have hne : subject p e ≠ some tx := by
    intro he
    rcases subject_eq_some he with ⟨r, rfl, h⟩ | ⟨k, r, rfl, hk⟩ | ⟨s, o, rest, rfl, hq⟩
    · exact absurd h (Nat.ne_of_lt htx)
    · have := mem_occ (List.mem_of_getElem? hk)
      rw [a] at this; cases this
    · have : (tx, o) ∈ occ tx (p.queues s) := mem_occ (hq ▸ List.mem_cons_self)
      rw [b s] at this; cases this
  obtain ⟨f1, f2, f3⟩ := step_frame p e tx hne
  exact ⟨f1 ▸ a, fun s => f2 s ▸ b s, by rw [msgsOf_append, c, f3]; rfl⟩

theorem status_of_request (cap : Nat) (pre post : List Ev) (r : Req) :
    let tx := (run (Prov.init cap) pre).1.counter + 1
    let res := run (Prov.init cap) (pre ++ .recv r :: post)
    Status res.1 tx r (msgsOf tx res.2) := by
  intro tx res
  obtain ⟨h1, h2, h3⟩ := run_invariant Absent absent_step pre (Prov.init cap) []
    (fun _ _ => ⟨rfl, fun _ => rfl, rfl⟩) tx (Nat.lt_succ_self _)
  -- from the request on: the status relation, and the id stays below the counter
  have := run_invariant (fun p log => Status p tx r (msgsOf tx log) ∧ tx ≤ p.counter)
    (fun p log e h => ⟨msgsOf_append .. ▸ status_step p tx r _ e h.1 h.2, Nat.le_trans h.2 (counter_le_step p e)⟩)
    post (step (run (Prov.init cap) pre).1 (.recv r)).1 []
    ⟨.inflight (by rw [show (step _ (.recv r)).1.inflight = _ ++ [(tx, r)] from rfl, occ_append, h1, occ_cons_eq]; rfl)
      h2 rfl, Nat.le_refl _⟩
  rw [List.nil_append] at h3 this
  rw [show res = _ from run_append _ pre (.recv r :: post), msgsOf_append, h3]
  exact this.1

/-- `Wait Start F | F` with a final `F` -/
def LegalWord (w : List St) : Prop := ∃ f, f.isFinal = true ∧ (w = [.wait, .start, f] ∨ w = [f])

/-- what can be observed of a legal word while the request is still pending (the worker step is atomic in the model) -/
def LegalPrefix (w : List St) : Prop := w = [] ∨ w = [.wait] ∨ LegalWord w

def NotPending (p : Prov) (tx : Nat) : Prop := occ tx p.inflight = [] ∧ ∀ s, occ tx (p.queues s) = []

def OneFinal (w : List St) : Prop := ∃ f, f.isFinal = true ∧ f ∈ w ∧ ∀ s ∈ w, s.isFinal = true → s = f

/-- the three shapes of the four complete message lists (a full queue looks like a direct `Fail`): all states in emission
    order / states of the response(s) / states of the reports -/
inductive Exchange : List St → List St → List St → Prop
  | unknown : Exchange [.fail] [.fail] []
  | direct (f : St) : f.isFinal = true → Exchange [f, f] [f] [f]
  | queued (f : St) : f.isFinal = true → Exchange [.wait, .wait, .start, f] [.wait] [.wait, .start, f]

theorem finalInfo_final (tx : Nat) (o : Outcome) (h : o.legal = true) : (finalInfo tx o).st.isFinal = true := by
  cases o with
  | ok s => exact h
  | raises => rfl

theorem complete_exchange (r : Req) (tx : Nat) (m : List Msg) (h : Complete r tx m) (hl : r.outcome.legal = true) :
    Exchange (m.map (·.info.st)) ((m.filterMap Msg.resp?).map (·.st)) ((m.filterMap Msg.report?).map (·.st)) := by
  have hf := finalInfo_final tx r.outcome hl
  rcases h with ⟨_, h⟩ | ⟨_, _, h⟩ | ⟨_, _, h⟩ | ⟨_, _, h⟩
  · subst h; exact .unknown
  · subst h; exact .direct _ hf
  · subst h; exact .queued _ hf
  · subst h; exact .direct .fail rfl

theorem exchange_legal (w rs rp : List St) (h : Exchange w rs rp) :
    LegalWord (collapse w) ∧ rs.length = 1 ∧ (rp = [] ∨ LegalWord rp) ∧ OneFinal w ∧
      (∀ s ∈ rs, s = .wait → ∃ f, rp = [.wait, .start, f]) ∧ (∀ s ∈ rs, s.isFinal = true → rp = [] ∨ rp = [s]) := by
  cases h with
  | unknown =>
    exact ⟨⟨.fail, rfl, .inr rfl⟩, rfl, .inl rfl,
      ⟨.fail, rfl, List.mem_singleton_self _, fun s hs _ => List.mem_singleton.mp hs⟩,
      fun s hs hw => (by cases List.mem_singleton.mp hs; cases hw), fun _ _ _ => .inl rfl⟩
  | direct f hf =>
    refine ⟨⟨f, hf, .inr ?_⟩, rfl, .inr ⟨f, hf, .inr rfl⟩, ⟨f, hf, List.mem_cons_self, fun s hs _ => ?_⟩,
      fun s hs hw => ?_, fun s hs _ => .inr (by rw [List.mem_singleton.mp hs])⟩
    · rw [collapse, if_pos rfl, collapse]
    · exact (List.mem_cons.mp hs).elim id List.mem_singleton.mp
    · cases List.mem_singleton.mp hs; cases hw; cases hf
  | queued f hf =>
    have h1 : St.start ≠ f := fun h => by subst h; cases hf
    refine ⟨⟨f, hf, .inl ?_⟩, rfl, .inr ⟨f, hf, .inl rfl⟩, ⟨f, hf, ?_, fun s hs hfin => ?_⟩,
      fun _ _ _ => ⟨f, rfl⟩, fun s hs hfin => ?_⟩
    · rw [collapse, if_pos rfl, collapse, if_neg (by decide), collapse, if_neg h1, collapse]
    · exact List.mem_cons_of_mem _ (List.mem_cons_of_mem _ (List.mem_cons_of_mem _ List.mem_cons_self))
    · -- `Wait` and `Start` are not final
      rcases List.mem_cons.mp hs with rfl | hs
      · cases hfin
      · rcases List.mem_cons.mp hs with rfl | hs
        · cases hfin
        · rcases List.mem_cons.mp hs with rfl | hs
          · cases hfin
          · exact List.mem_singleton.mp hs
    · cases List.mem_singleton.mp hs; cases hfin

theorem status_not_pending (p : Prov) (tx : Nat) (r : Req) (m : List Msg) (h : Status p tx r m) (hn : NotPending p tx) :
    Complete r tx m := by
  cases h with
  | inflight h1 _ _ => rw [hn.1] at h1; cases h1
  | queued s _ _ _ h2 _ _ => rw [hn.2 s] at h2; cases h2
  | done _ _ h3 => exact h3

theorem status_prefix (p : Prov) (tx : Nat) (r : Req) (m : List Msg) (h : Status p tx r m) (hl : r.outcome.legal = true) :
    LegalPrefix (collapse (m.map (·.info.st))) := by
  cases h with
  | inflight _ _ h3 => subst h3; exact .inl rfl
  | queued s _ _ _ _ _ h4 => subst h4; exact .inr (.inl rfl)
  | done _ _ h3 => exact .inr (.inr (exchange_legal _ _ _ (complete_exchange r tx m h3 hl)).1)

end Sdc.Invocation
