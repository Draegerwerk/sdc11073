import SdcModel.Location
/-! Parsing back the scope strings the library assembles; containment; the extension segment of the published scope.
For Properties/C16.lean (core Lean only). -/
namespace Sdc.Location
open Sdc.Percent Sdc.Url

/-- bytes that can occur in the scope strings the library builds -/
def urlSafe (b : Nat) : Bool := quoted b || b == 43 || b == 61 || b == 38 || b == 47

theorem urlSafe_of_quoted {b : Nat} (h : quoted b = true) : urlSafe b = true := by simp [urlSafe, h]

theorem urlSafe_gt {b : Nat} (h : urlSafe b = true) : 32 < b := by
  simp only [urlSafe, quoted, Bool.or_eq_true, beq_iff_eq, unreserved_iff] at h
  omega

theorem cleanUrl_of_gt {url : Bytes} (h : ∀ b ∈ url, 32 < b) : cleanUrl url = url := by
  unfold cleanUrl
  cases url with
  | nil => rfl
  | cons c bs =>
    rw [List.dropWhile_cons, if_neg (by simpa using h c (List.mem_cons_self ..))]
    refine List.filter_eq_self.mpr fun b hb => ?_
    have := h b hb
    simp only [Bool.not_eq_true', Bool.or_eq_false_iff, beq_eq_false_iff_ne]
    omega

theorem splitScheme_of (c : Nat) (t post : Bytes) (h58 : 58 ∉ c :: t)
    (ha : (isAlpha c && (c :: t).all isSchemeChar) = true) :
    splitScheme ((c :: t) ++ 58 :: post) = (lower (c :: t), post) := by
  unfold splitScheme
  rw [splitFirst_append _ h58]
  simp only [ha, if_true]

/-- `d` followed by `q`, or nothing when `q` is empty: how `urlunparse` appends `?query` (and `mk_scopes` `/extension`) -/
def sepTail (d : Nat) (q : Bytes) : Bytes := if q = [] then [] else d :: q

theorem forall_mem_sepTail {P : Nat → Prop} {d : Nat} {q : Bytes} (hd : P d) (hq : ∀ b ∈ q, P b) :
    ∀ b ∈ sepTail d q, P b := by
  unfold sepTail
  split
  · nofun
  · exact List.forall_mem_cons.mpr ⟨hd, hq⟩

theorem splitFirst_sepTail {d : Nat} {a : Bytes} (q : Bytes) (ha : d ∉ a) :
    splitFirst d (a ++ sepTail d q) = if q = [] then none else some (a, q) := by
  unfold sepTail
  split
  · rw [List.append_nil, splitFirst_none ha]
  · exact splitFirst_append _ ha

theorem splitFirst_opt {d : Nat} {a : Bytes} (q : Bytes) (ha : d ∉ a) :
    (match splitFirst d (a ++ if q = [] then [] else d :: q) with
      | some (x, y) => (x, y)
      | none => (a ++ if q = [] then [] else d :: q, [])) = (a, q) := by
  rw [show (if q = [] then [] else d :: q) = sepTail d q from rfl, splitFirst_sepTail q ha]
  by_cases hq : q = []
  · simp only [hq, if_true, sepTail, List.append_nil]
  · simp only [hq, if_false]

/-- a path `/c…` with `c ≠ '/'` does not begin with `//`, so `urlsplit` finds no netloc in the assembled string -/
theorem urlsplit_unparse (chk : Bytes → Bool) (sch path query : Bytes) {c : Nat} {rest : Bytes}
    (ha : sch.head?.any isAlpha = true) (hall : sch.all isSchemeChar = true) (hs : ∀ b ∈ sch, urlSafe b = true)
    (hpath : path = 47 :: c :: rest) (hc : c ≠ 47) (hp : ∀ b ∈ path, urlSafe b = true)
    (hq : ∀ b ∈ query, urlSafe b = true) :
    urlsplit chk (unparse sch path query) = some ⟨lower sch, [], path, query, []⟩ := by
  have gt : ∀ {l : Bytes}, (∀ b ∈ l, urlSafe b = true) → ∀ b ∈ l, 32 < b := fun h b hb => urlSafe_gt (h b hb)
  have ne : ∀ {l : Bytes} (d : Nat), urlSafe d = false → (∀ b ∈ l, urlSafe b = true) → ∀ b ∈ l, b ≠ d :=
    fun d hd h b hb => ne_of_class (h b hb) hd
  have hclean : cleanUrl (unparse sch path query) = sch ++ 58 :: (path ++ sepTail 63 query) :=
    cleanUrl_of_gt (List.forall_mem_append.mpr ⟨gt hs, List.forall_mem_cons.mpr ⟨by decide,
      List.forall_mem_append.mpr ⟨gt hp, forall_mem_sepTail (by decide) (gt hq)⟩⟩⟩)
  have hscheme : splitScheme (sch ++ 58 :: (path ++ sepTail 63 query)) = (lower sch, path ++ sepTail 63 query) := by
    cases sch with
    | nil => cases ha
    | cons s t => exact splitScheme_of s t _ (not_mem_of_class hs (by decide)) (Bool.and_eq_true _ _ ▸ ⟨ha, hall⟩)
  have hnet : splitNetloc (path ++ sepTail 63 query) = ([], path ++ sepTail 63 query) := by
    simp [hpath, splitNetloc, hc]
  have hfrag : splitFirst 35 (path ++ sepTail 63 query) = none :=
    splitFirst_none fun hm => List.forall_mem_append.mpr
      ⟨ne 35 (by decide) hp, forall_mem_sepTail (by decide) (ne 35 (by decide) hq)⟩ 35 hm rfl
  have hquery := splitFirst_sepTail query fun hm => ne 63 (by decide) hp 63 hm rfl
  unfold urlsplit
  simp only [hclean, hscheme, hnet, show netlocOk chk [] = true from rfl, if_true, hfrag, hquery]
  by_cases hq0 : query = []
  · simp only [hq0, if_true, sepTail, List.append_nil]
  · simp only [hq0, if_false]

theorem optValid_getD {o : Option Bytes} (h : optValid o = true) : Utf8.valid (o.getD []) = true := by
  cases o with
  | none => rfl
  | some v => exact h

theorem valid_parts {l : Loc} (h : l.valid = true) :
    Utf8.valid l.root = true ∧ optValid l.fac = true ∧ optValid l.bldng = true ∧ optValid l.flr = true ∧
      optValid l.poc = true ∧ optValid l.rm = true ∧ optValid l.bed = true := by
  simp only [Loc.valid, Bool.and_eq_true] at h
  exact ⟨h.1.1.1.1.1.1, h.1.1.1.1.1.2, h.1.1.1.1.2, h.1.1.1.2, h.1.1.2, h.1.2, h.2⟩

theorem elems_valid {l : Loc} (h : l.valid = true) : ∀ e ∈ l.elems, Utf8.valid e.1 = true ∧ optValid e.2 = true := by
  have ⟨_, h1, h2, h3, h4, h5, h6⟩ := valid_parts h
  simp only [Loc.elems, List.forall_mem_cons]
  exact ⟨⟨by decide, h1⟩, ⟨by decide, h2⟩, ⟨by decide, h3⟩, ⟨by decide, h4⟩, ⟨by decide, h5⟩, ⟨by decide, h6⟩, nofun⟩

theorem present_cons_none (k : Bytes) (es : List (Bytes × Option Bytes)) : present ((k, none) :: es) = present es := rfl

theorem present_cons_some (k v : Bytes) (es : List (Bytes × Option Bytes)) :
    present ((k, some v) :: es) = (k, v) :: present es := rfl

theorem mem_present {es : List (Bytes × Option Bytes)} {p : Bytes × Bytes} :
    p ∈ present es ↔ (p.1, some p.2) ∈ es := by
  simp only [present, List.mem_filterMap, Option.map_eq_some_iff]
  constructor
  · rintro ⟨⟨k, o⟩, he, v, rfl, rfl⟩; exact he
  · intro h; exact ⟨_, h, _, rfl, rfl⟩

theorem present_valid {es : List (Bytes × Option Bytes)}
    (h : ∀ e ∈ es, Utf8.valid e.1 = true ∧ optValid e.2 = true) : PairsValid (present es) :=
  fun _ hp => h _ (mem_present.mp hp)

theorem dictGet_present {es : List (Bytes × Option Bytes)} (hd : (es.map Prod.fst).Pairwise (· ≠ ·)) :
    ∀ e ∈ es, dictGet (present es) e.1 = e.2 := by
  induction es with
  | nil => intro e he; cases he
  | cons x es ih =>
    obtain ⟨hx, hd'⟩ := List.pairwise_cons.mp hd
    -- no later pair has the key of `x`
    have hx' : ∀ p ∈ present es, p.1 ≠ x.1 := fun p hp =>
      (hx _ (List.mem_map_of_mem (mem_present.mp hp))).symm
    obtain ⟨k, o⟩ := x
    intro e he
    rcases List.mem_cons.mp he with rfl | he'
    · cases o with
      | none => exact dictGet_absent hx'
      | some v => exact dictGet_cons_self v hx'
    · have hne : k ≠ e.1 := hx _ (List.mem_map_of_mem he')
      cases o with
      | none => rw [present_cons_none]; exact ih hd' e he'
      | some v => rw [present_cons_some, dictGet_cons_ne _ hne]; exact ih hd' e he'

theorem keys_distinct : [kFac, kBldng, kFlr, kPoc, kRm, kBed].Pairwise (· ≠ ·) := by decide

theorem ofLookup_present (r : Bytes) (l : Loc) :
    ofLookup r (dictGet (present l.elems)) = { l with root := r } := by
  have h := dictGet_present (es := l.elems) keys_distinct
  simp only [Loc.elems, List.forall_mem_cons] at h
  simp only [ofLookup, Loc.elems, h]

/-- the six elements as they stand in a path: `quote(value or '')`, in hierarchy order -/
def quotedElems (l : Loc) : List Bytes := l.elems.map fun e => quote (e.2.getD [])

theorem quoted_elems_safe {l : Loc} (h : l.valid = true) : ∀ x ∈ quotedElems l, ∀ b ∈ x, quoted b = true := by
  intro x hx
  obtain ⟨e, he, rfl⟩ := List.mem_map.mp hx
  exact quote_quoted _ (Utf8.lt_of_valid (optValid_getD (elems_valid h e he).2))

theorem urlencode_safe {q : Bytes → Bytes} (hq : QuoteOk q) {ps : List (Bytes × Bytes)} (hv : PairsValid ps) :
    ∀ b ∈ urlencode q ps, urlSafe b = true := by
  have safe : ∀ bs, Utf8.valid bs = true → ∀ b ∈ q bs, urlSafe b = true := fun bs h b hb =>
    (hq.bytes bs h b hb).elim urlSafe_of_quoted fun e => e ▸ rfl
  refine forall_mem_join (by decide) fun x hx => ?_
  obtain ⟨p, hp, rfl⟩ := List.mem_map.mp hx
  exact List.forall_mem_append.mpr ⟨safe _ (hv p hp).1, List.forall_mem_cons.mpr ⟨by decide, safe _ (hv p hp).2⟩⟩

theorem parse_assembled (chk : Bytes → Bool) (q : Bytes → Bytes) (hq : QuoteOk q)
    (root seg : Bytes) (l : Loc) (hv : l.valid = true) (hroot : Utf8.valid root = true) (hne : root ≠ [])
    (hseg : ∀ b ∈ seg, quoted b = true) :
    fromScopeString chk (unparse scheme (47 :: (quote root ++ (47 :: seg))) (urlencode q (present l.elems)))
      = .ok { l with root := root } := by
  have hpv := present_valid (elems_valid hv)
  have hqr : ∀ b ∈ quote root, quoted b = true := quote_quoted root (Utf8.lt_of_valid hroot)
  have n1 : 47 ∉ quote root := not_mem_of_class hqr (by decide)
  have n2 : 47 ∉ seg := not_mem_of_class hseg (by decide)
  have hsplit : splitOn 47 (47 :: (quote root ++ (47 :: seg))) = [[], quote root, seg] := by
    rw [← List.nil_append (47 :: _), splitOn_append _ List.not_mem_nil, splitOn_append _ n1, splitOn_of_not_mem n2]
  have hpath : ∀ b ∈ 47 :: (quote root ++ (47 :: seg)), urlSafe b = true :=
    List.forall_mem_cons.mpr ⟨by decide, List.forall_mem_append.mpr ⟨fun b hb => urlSafe_of_quoted (hqr b hb),
      List.forall_mem_cons.mpr ⟨by decide, fun b hb => urlSafe_of_quoted (hseg b hb)⟩⟩⟩
  -- the first segment is not empty and has no `/`, so the path does not begin with `//`
  obtain ⟨c, t, hct⟩ := List.exists_cons_of_ne_nil (l := quote root) fun e => hne (quoteWith_eq_nil e)
  have hc : c ≠ 47 := fun e => n1 (hct ▸ e ▸ List.mem_cons_self ..)
  unfold fromScopeString
  rw [urlsplit_unparse chk scheme _ _ (by decide) (by decide) (by decide) (by rw [hct]; rfl) hc hpath
    (urlencode_safe hq hpv)]
  simp only [show lower (lower scheme) = scheme by decide, ne_eq, not_true_eq_false, if_false, hsplit]
  rw [parseQsl_urlencode hq true _ hpv (Or.inl rfl), unquoteStr_quote hroot, ofLookup_present]

theorem elemOk_iff (mine other : Option Bytes) : elemOk mine other = true ↔ (mine = none ∨ mine = other) := by
  cases mine with
  | none => simp [elemOk]
  | some v =>
    simp only [elemOk, beq_iff_eq, reduceCtorEq, false_or]
    exact ⟨fun h => h.symm, fun h => h.symm⟩

/-- `enc` encloses `l`: same root, and every element `enc` specifies has the same value in `l` -/
def Encloses (enc l : Loc) : Prop :=
  enc.root = l.root ∧ (enc.fac = none ∨ enc.fac = l.fac) ∧ (enc.bldng = none ∨ enc.bldng = l.bldng) ∧
    (enc.flr = none ∨ enc.flr = l.flr) ∧ (enc.poc = none ∨ enc.poc = l.poc) ∧ (enc.rm = none ∨ enc.rm = l.rm) ∧
    (enc.bed = none ∨ enc.bed = l.bed)

theorem contains_iff (self other : Loc) : contains self other = true ↔ Encloses self other := by
  simp only [contains, Bool.and_eq_true, beq_iff_eq, elemOk_iff, Encloses, and_assoc]

theorem scopeStringMatches_of_parse {chk : Bytes → Bool} {s : Bytes} {other : Loc} (self : Loc)
    (h : fromScopeString chk s = .ok other) : scopeStringMatches chk self s = .ok (contains self other) := by
  unfold scopeStringMatches
  rw [h]

theorem not_elem_encloses {mine other : Option Bytes} {v : Bytes} (e : mine = some v) (n : other ≠ some v) :
    ¬ (mine = none ∨ mine = other) := by
  subst e
  rintro (h | h)
  · cases h
  · exact n h.symm

theorem ite_none_or (k : Bool) (o : Option Bytes) :
    (if k then o else none) = none ∨ (if k then o else none) = o := by
  cases k
  · exact Or.inl rfl
  · exact Or.inr rfl

theorem quote_getD_eq_nil {o : Option Bytes} : quote (o.getD []) = [] ↔ (o = none ∨ o = some []) := by
  constructor
  · intro h
    have := quoteWith_eq_nil h
    cases o with
    | none => exact Or.inl rfl
    | some v => exact Or.inr (by simpa using this)
  · rintro (rfl | rfl) <;> rfl

/-- all elements absent or empty (then `_loc_extension_segment` raises) -/
def AllEmpty (l : Loc) : Prop :=
  (l.fac = none ∨ l.fac = some []) ∧ (l.bldng = none ∨ l.bldng = some []) ∧ (l.flr = none ∨ l.flr = some []) ∧
    (l.poc = none ∨ l.poc = some []) ∧ (l.rm = none ∨ l.rm = some []) ∧ (l.bed = none ∨ l.bed = some [])

theorem locExtension_eq (l : Loc) :
    locExtension l =
      if join [47] (quotedElems l) = [47, 47, 47, 47, 47] then .error .valueError else .ok (join [47] (quotedElems l)) :=
  rfl

theorem published_eq (l : Loc) :
    published l =
      (locExtension l).map fun ext => contextScope scheme defaultRoot ext (urlencode quote (present l.elems)) := by
  unfold published
  cases locExtension l <;> rfl

theorem ext_eq_slashes_iff {l : Loc} (h : l.valid = true) :
    join [47] (quotedElems l) = [47, 47, 47, 47, 47] ↔ AllEmpty l := by
  have n47 : ∀ x ∈ quotedElems l, (47 : Nat) ∉ x :=
    fun x hx => not_mem_of_class (quoted_elems_safe h x hx) (by decide)
  have hne : quotedElems l ≠ [] := List.cons_ne_nil _ _
  -- `'/////'` joins six empty strings, and a join of `/`-free parts determines the parts
  rw [show ([47, 47, 47, 47, 47] : Bytes) = join [47] [[], [], [], [], [], []] from rfl,
    join_sep_inj hne (List.cons_ne_nil _ _) n47 (by decide)]
  simp only [quotedElems, Loc.elems, List.map_cons, List.map_nil, List.cons.injEq, and_true, quote_getD_eq_nil, AllEmpty]

theorem ext_ne_nil (l : Loc) : join [47] (quotedElems l) ≠ [] := fun h => by
  have : 47 ∈ join [47] (quotedElems l) := List.mem_append_left _ (List.mem_append_right _ (List.mem_singleton_self 47))
  rw [h] at this
  cases this

theorem ext_lt {l : Loc} (h : l.valid = true) :
    ∀ b ∈ join [47] (quotedElems l), b < 256 :=
  forall_mem_join (by decide) fun x hx b hb => Nat.lt_trans (quoted_lt (quoted_elems_safe h x hx b hb)) (by decide)

theorem contextScope_eq (root ext query : Bytes) (he : ext ≠ []) :
    contextScope scheme root ext query = unparse scheme (47 :: (quote root ++ (47 :: quote ext))) query := by
  simp [contextScope, unparse, he]

end Sdc.Location
